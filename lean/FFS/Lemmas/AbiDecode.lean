/-
  FFS.Lemmas.AbiDecode — the equations of the ABI decoder (FFS.Model.Abi.decodeElem, decode and its loops) with every
  three-way `match` on an `Outcome` written as a `bind`, so that proofs about the decoder go through
  `Outcome.bind_eq_ok` / `Outcome.Sat.bind`.
-/
import FFS.Model.AbiCodec
import FFS.Lemmas.Outcome
namespace FFS.Model.Abi
open FFS

/-- what the `bytes` and `string` rows read: the tail behind an offset word, prefixed by its length, when `m = 0`;
    `m` bytes in place otherwise -/
def readBytes (m : Nat) (block : Bytes) (hs hp : Nat) : Outcome Bytes :=
  if m = 0 then
    (decodeLength block hp).bind fun off => (decodeLength block (hs + off)).bind fun n =>
      if hs + off + 32 + n > block.length then .err else .ok ((block.drop (hs + off + 32)).take n)
  else if hp + m > block.length then .err else .ok ((block.drop hp).take m)

theorem decodeElem_eq (info : ElemInfo) (m : Nat) (block : Bytes) (hs hp : Nat) :
    decodeElem info m block hs hp =
      match codecOf info.dec with
      | .sint =>
        if hp + 32 > block.length then .err
        else (slice? block hp (hp + 32)).bind fun w => .ok (.int (parseInt256 w))
      | .uint =>
        if hp + 32 > block.length then .err
        else (slice? block (hp + (32 - m / 8)) (hp + 32)).bind fun w => .ok (.int (fromBE w))
      | .bytes => (readBytes m block hs hp).bind fun b => .ok (.bytes b)
      | .string => (readBytes m block hs hp).bind fun b => .ok (.str b)
      | .float => .err := by
  unfold decodeElem readBytes
  cases codecOf info.dec
  -- the model has one arm for both, compiled twice
  case bytes | string =>
    dsimp only
    by_cases hm : m = 0
    · rw [if_pos hm, if_pos hm]
      cases decodeLength block hp with
      | ok off =>
        dsimp only [Outcome.ok_bind]
        cases decodeLength block (hs + off) with
        | ok n => dsimp only [Outcome.ok_bind]; rw [apply_ite (Outcome.bind · _)]; rfl
        | _ => rfl
      | _ => rfl
    · rw [if_neg hm, if_neg hm, apply_ite (Outcome.bind · _)]; rfl
  all_goals rfl

theorem decode_elem (info : ElemInfo) (sfx : String) (m n : Nat) (block : Bytes) (hs hp : Nat) :
    decode (.elem info sfx m n) block hs hp = (decodeElem info m block hs hp).bind fun v => .ok (32, v) := by
  rw [decode]; cases decodeElem info m block hs hp <;> rfl

theorem decode_farr (t : Ty) (k : Nat) (block : Bytes) (hs hp : Nat) :
    decode (.farr t k) block hs hp =
      if isDynamicType (.farr t k) then
        (decodeLength block hp).bind fun off =>
          (decodeRepeat (decode t block) k (hs + off) (hs + off)).bind fun p => .ok (32, .kids p.2)
      else (decodeRepeat (decode t block) k hs hp).bind fun p => .ok (p.1, .kids p.2) := by
  rw [decode]
  split
  · cases decodeLength block hp with
    | ok off => dsimp only [Outcome.ok_bind]; cases decodeRepeat (decode t block) k (hs + off) (hs + off) <;> rfl
    | _ => rfl
  · cases decodeRepeat (decode t block) k hs hp <;> rfl

theorem decode_darr (t : Ty) (block : Bytes) (hs hp : Nat) :
    decode (.darr t) block hs hp =
      (decodeLength block hp).bind fun off => (decodeLength block (hs + off)).bind fun count =>
        (decodeRepeatDyn (decode t block) (decide (count > Gen.AbiCodecFacts.maxEmptyElementCount)) count
          (hs + off + 32) (hs + off + 32)).bind fun p => .ok (32, .kids p.2) := by
  rw [decode]
  cases decodeLength block hp with
  | ok off =>
    dsimp only [Outcome.ok_bind]
    cases decodeLength block (hs + off) with
    | ok count => dsimp only [Outcome.ok_bind]; cases decodeRepeatDyn (decode t block) _ count _ _ <;> rfl
    | _ => rfl
  | _ => rfl

theorem decode_tuple (ns : List String) (ts : List Ty) (block : Bytes) (hs hp : Nat) :
    decode (.tuple ns ts) block hs hp =
      if isDynamicType (.tuple ns ts) then
        (decodeLength block hp).bind fun off =>
          (decodeList ts block (hs + off) (hs + off)).bind fun p => .ok (32, .kids p.2)
      else (decodeList ts block hs hp).bind fun p => .ok (p.1, .kids p.2) := by
  rw [decode]
  split
  · cases decodeLength block hp with
    | ok off => dsimp only [Outcome.ok_bind]; cases decodeList ts block (hs + off) (hs + off) <;> rfl
    | _ => rfl
  · cases decodeList ts block hs hp <;> rfl

theorem decodeList_cons (t : Ty) (ts : List Ty) (block : Bytes) (hs hp : Nat) :
    decodeList (t :: ts) block hs hp =
      (decode t block hs hp).bind fun p =>
        (decodeList ts block hs (hp + p.1)).bind fun q => .ok (p.1 + q.1, p.2 :: q.2) := by
  rw [decodeList]
  cases decode t block hs hp with
  | ok p => dsimp only [Outcome.ok_bind]; cases decodeList ts block hs (hp + p.1) <;> rfl
  | _ => rfl

theorem decodeParams_eq (ts : List Ty) (block : Bytes) (offset : Nat) :
    decodeParams ts block offset = (decodeList ts block offset offset).bind fun p => .ok (.kids p.2) := by
  rw [decodeParams]; cases decodeList ts block offset offset <;> rfl

theorem decodeRepeat_succ (dec : Nat → Nat → Outcome (Nat × CV)) (n hs hp : Nat) :
    decodeRepeat dec (n + 1) hs hp =
      (dec hs hp).bind fun p =>
        (decodeRepeat dec n hs (hp + p.1)).bind fun q => .ok (p.1 + q.1, p.2 :: q.2) := by
  rw [decodeRepeat]
  cases dec hs hp with
  | ok p => dsimp only [Outcome.ok_bind]; cases decodeRepeat dec n hs (hp + p.1) <;> rfl
  | _ => rfl

/-- the loop of a dynamic array is the plain loop over a decoder that refuses an empty child when the count is over
    the cap: every fact about `decodeRepeat` holds of `decodeRepeatDyn` -/
theorem decodeRepeatDyn_eq (dec : Nat → Nat → Outcome (Nat × CV)) (over : Bool) (n hs hp : Nat) :
    decodeRepeatDyn dec over n hs hp =
      decodeRepeat (fun a b => (dec a b).bind fun p =>
        if Gen.AbiCodecFacts.zeroSizeCountBounded && over && p.1 == 0 then .err else .ok p) n hs hp := by
  induction n generalizing hp with
  | zero => rfl
  | succ n ih =>
    rw [decodeRepeatDyn, decodeRepeat_succ]
    cases dec hs hp with
    | ok p =>
      dsimp only [Outcome.ok_bind]
      split
      · rfl
      · rw [ih]; dsimp only [Outcome.ok_bind]; cases decodeRepeat _ n hs (hp + p.1) <;> rfl
    | _ => rfl

theorem decodeRepeatDyn_false (dec : Nat → Nat → Outcome (Nat × CV)) (n hs hp : Nat) :
    decodeRepeatDyn dec false n hs hp = decodeRepeat dec n hs hp := by
  rw [decodeRepeatDyn_eq]
  congr
  funext a b
  cases dec a b <;> simp

end FFS.Model.Abi
