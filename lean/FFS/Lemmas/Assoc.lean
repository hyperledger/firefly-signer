/-
  Association lists keyed by the first component, as the models use them (`FsWallet.mapLookup/mapSet`,
  `FsWalletConc.lookup`, `RpcClients.Ws.getSub/setSub`, the id tables of the RPC clients, `Eip712.tsLookup/tsInsert`,
  `Abi.lookupKey`):
  lookup is `find? (·.1 == k)`, update is "cons the new binding, filter the old ones out".
-/
namespace FFS.Assoc
variable {α β : Type} [BEq α] [LawfulBEq α]

theorem find?_filter_ne (l : List (α × β)) {k k' : α} (h : k ≠ k') :
    (l.filter (·.1 != k)).find? (·.1 == k') = l.find? (·.1 == k') := by
  induction l with
  | nil => rfl
  | cons q t ih =>
    by_cases hk : q.1 = k
    · simp [hk, h, ih]
    · simp [hk, List.find?_cons, ih]

omit [LawfulBEq α] in
theorem find?_map (l : List (α × β)) {g : α × β → α × β} (hg : ∀ p, (g p).1 = p.1) (k : α) :
    (l.map g).find? (·.1 == k) = (l.find? (·.1 == k)).map g := by
  rw [List.find?_map]
  congr 2
  funext p
  simp [hg]

variable [DecidableEq α]

theorem find?_cons (l : List (α × β)) (k k' : α) (v : β) :
    ((k, v) :: l).find? (·.1 == k') = if k = k' then some (k, v) else l.find? (·.1 == k') := by
  by_cases h : k = k' <;> simp [h]

theorem find?_set (l : List (α × β)) (k k' : α) (v : β) :
    ((k, v) :: l.filter (·.1 != k)).find? (·.1 == k') = if k = k' then some (k, v) else l.find? (·.1 == k') := by
  rw [find?_cons]
  split
  · rfl
  · exact find?_filter_ne l ‹_›

/-! the value looked up, in the form the models write it: `(l.find? (·.1 == k)).map (·.2)` -/

theorem lookup_cons (l : List (α × β)) (k k' : α) (v : β) :
    (((k, v) :: l).find? (·.1 == k')).map (·.2) = if k = k' then some v else (l.find? (·.1 == k')).map (·.2) := by
  rw [find?_cons]
  split <;> rfl

theorem lookup_set (l : List (α × β)) (k k' : α) (v : β) :
    (((k, v) :: l.filter (·.1 != k)).find? (·.1 == k')).map (·.2) =
      if k = k' then some v else (l.find? (·.1 == k')).map (·.2) := by
  rw [find?_set]
  split <;> rfl

omit [DecidableEq α] in
theorem of_find? {l : List (α × β)} {k : α} {p : α × β} (h : l.find? (·.1 == k) = some p) : p.1 = k ∧ p ∈ l :=
  ⟨by simpa using List.find?_some h, List.mem_of_find?_eq_some h⟩

omit [DecidableEq α] in
theorem find?_eq_none {l : List (α × β)} {k : α} : l.find? (·.1 == k) = none ↔ ∀ p ∈ l, p.1 ≠ k := by
  simp [List.find?_eq_none]

omit [DecidableEq α] in
theorem find?_of_mem {l : List (α × β)} (hn : (l.map (·.1)).Nodup) {k : α} {v : β} (hm : (k, v) ∈ l) :
    l.find? (·.1 == k) = some (k, v) := by
  induction l with
  | nil => cases hm
  | cons p t ih =>
    rw [List.map_cons, List.nodup_cons] at hn
    rcases List.mem_cons.mp hm with rfl | hm
    · simp
    · have : p.1 ≠ k := fun e => hn.1 (e ▸ List.mem_map.mpr ⟨(k, v), hm, rfl⟩)
      simp [this, ih hn.2 hm]

omit [DecidableEq α] in
theorem find?_perm {l₁ l₂ : List (α × β)} (hp : l₁.Perm l₂) (hn : (l₁.map (·.1)).Nodup) (k : α) :
    l₁.find? (·.1 == k) = l₂.find? (·.1 == k) := by
  cases h : l₁.find? (·.1 == k) with
  | none => exact (find?_eq_none.mpr fun p hm => find?_eq_none.mp h p (hp.mem_iff.mpr hm)).symm
  | some p =>
    obtain ⟨rfl, hm⟩ := of_find? h
    exact (find?_of_mem ((hp.map _).nodup_iff.mp hn) (hp.mem_iff.mp hm)).symm

end FFS.Assoc
