/-
  FFS.Lemmas.Eip55 — the model of `AddressWithChecksum.String()` (zip the lower-case hex of the address with the hex of
  its Keccak-256 hash) equals the EIP-55 specification function (upper-case a letter when the hash nibble at the same
  index is ≥ 8) (`checksum_eq_eip55`); that spelling hex-decodes as the lower-case one does, letter case being ignored
  (`hexDecode_congr`, `eip55_decodes`), and hex spellings are ASCII (`hexEncode_small`, `eip55_small`).
-/
import FFS.Model.EthTypes
import FFS.Spec.Numeric
namespace FFS.Lemmas.Eip55
open FFS FFS.Model.EthTypes

theorem hexEncode_eq_hexOf : ∀ a : Bytes, hexEncode a = Spec.Numeric.hexOf a
  | [] => rfl
  | b :: bs => by rw [hexEncode, hexEncode_eq_hexOf bs]; rfl

theorem hexEncode_length : ∀ a : Bytes, (hexEncode a).length = 2 * a.length
  | [] => rfl
  | b :: bs => by simp [hexEncode, hexEncode_length bs]; omega

def nibAt (H : Bytes) (i : Nat) : Nat :=
  let b := (H.getD (i / 2) 0).toNat
  if i % 2 = 0 then b / 16 else b % 16

theorem nibAt_lt (H : Bytes) (i : Nat) : nibAt H i < 16 := by
  unfold nibAt
  have := (H.getD (i / 2) 0).toNat_lt
  simp only []
  split <;> omega

theorem hexEncode_getElem : ∀ (H : Bytes) (i : Nat) (h : i < (hexEncode H).length), (hexEncode H)[i] = hexChar (nibAt H i)
  | [], _, h => absurd h (Nat.not_lt_zero _)
  | b :: bs, 0, _ => by simp [hexEncode, nibAt]
  | b :: bs, 1, _ => by simp [hexEncode, nibAt]
  | b :: bs, i + 2, _ => by
    have h2 : (i + 2) / 2 = i / 2 + 1 := by omega
    have h3 : (i + 2) % 2 = i % 2 := by omega
    simp only [hexEncode, List.getElem_cons_succ, hexEncode_getElem bs i, nibAt, h2, h3, List.getD_cons_succ]

theorem hexChar_facts : ∀ k : Fin 16, hexDigitVal (hexChar k.val) = some k.val ∧ (hexChar k.val).toLower = hexChar k.val ∧
    ((hexChar k.val).isAlpha = false → (hexChar k.val).toUpper = hexChar k.val) := by decide

/-- the per-character rule of the model and of the specification agree on a lower-case hex digit -/
theorem rule_agrees (k n : Nat) (hk : k < 16) (hn : n < 16) :
    (if (hexDigitVal (hexChar n)).getD 0 ≥ 8 then (hexChar k).toUpper else (hexChar k).toLower) =
    (if (hexChar k).isAlpha ∧ n ≥ 8 then (hexChar k).toUpper else hexChar k) := by
  have fk := hexChar_facts ⟨k, hk⟩
  have fn := hexChar_facts ⟨n, hn⟩
  simp only [] at fk fn
  rw [fn.1, Option.getD_some, fk.2.1]
  by_cases h8 : n ≥ 8
  · cases ha : (hexChar k).isAlpha with
    | true => simp [h8]
    | false => simp [h8, fk.2.2 ha]
  · simp [h8]

theorem hexEncode_mem : ∀ (a : Bytes) (c : Char), c ∈ hexEncode a → ∃ k, k < 16 ∧ c = hexChar k
  | [], c, h => by simp [hexEncode] at h
  | b :: bs, c, h => by
    simp only [hexEncode, List.mem_cons] at h
    have hb := b.toNat_lt
    rcases h with rfl | rfl | h
    · exact ⟨_, by omega, rfl⟩
    · exact ⟨_, by omega, rfl⟩
    · exact hexEncode_mem bs c h

/-- zipping lower-case hex digits with the hex of `H` under the model's rule = mapping them, with their index, under
    the specification's rule -/
theorem zip_rule (h : List Char) (H : Bytes) (hh : ∀ c ∈ h, ∃ k, k < 16 ∧ c = hexChar k) (hlen : h.length ≤ 2 * H.length) :
    List.zipWith (fun c x => if (hexDigitVal x).getD 0 ≥ 8 then c.toUpper else c.toLower) h (hexEncode H) =
    h.zipIdx.map (fun p => if p.1.isAlpha ∧ nibAt H p.2 ≥ 8 then p.1.toUpper else p.1) := by
  have hl := hexEncode_length H
  apply List.ext_getElem
  · simp [hl]; omega
  · intro i h1 h2
    have hi : i < h.length := by simp at h2; exact h2
    rw [List.getElem_zipWith, List.getElem_map, List.getElem_zipIdx]
    obtain ⟨k, hk, hc⟩ := hh h[i] (List.getElem_mem hi)
    simp only [hexEncode_getElem, hc, Nat.zero_add]
    exact rule_agrees k (nibAt H i) hk (nibAt_lt H i)

/-- **`AddressWithChecksum.String()` is the EIP-55 form** of an address, as long as the 64 hex digits of the hash cover
    its own hex digits -/
theorem checksum_eq_eip55 (a : Bytes) (h : a.length ≤ 32) : addressChecksumString a = Spec.Numeric.eip55 a := by
  have hz := zip_rule (hexEncode a) (Prim.keccak256 (charBytes (hexEncode a))) (hexEncode_mem a)
    (by rw [hexEncode_length, Prim.keccak256_length]; omega)
  unfold addressChecksumString Spec.Numeric.eip55
  simp only []
  rw [← hexEncode_eq_hexOf, hz]
  rfl

/-- two characters that denote the same hex digit (or are both not hex digits) -/
def SameDigit (a b : Char) : Prop := hexDigitVal a = hexDigitVal b

def SameDigits : List Char → List Char → Prop
  | [], [] => True
  | a :: l, b :: m => SameDigit a b ∧ SameDigits l m
  | _, _ => False

theorem hexDecode_congr : ∀ (l1 l2 : List Char), SameDigits l1 l2 → hexDecode l1 = hexDecode l2
  | [], [], _ => rfl
  | [_], [_], _ => rfl
  | a :: b :: r, a' :: b' :: r', h => by
    obtain ⟨h1, h2, h3⟩ := h
    unfold SameDigit at h1 h2
    simp only [hexDecode, h1, h2, hexDecode_congr r r' h3]
  | [], _ :: _, h | _ :: _, [], h => h.elim
  | [_], _ :: _ :: _, h | _ :: _ :: _, [_], h => h.2.elim

theorem upper_same : ∀ k : Fin 16, hexDigitVal (hexChar k.val).toUpper = hexDigitVal (hexChar k.val) := by decide

/-- changing some letters of a hex string to upper case changes no digit -/
theorem cased_same (f : Char × Nat → Char) (hf : ∀ p, f p = p.1.toUpper ∨ f p = p.1) : ∀ (l : List Char) (n : Nat),
    (∀ c ∈ l, ∃ k, k < 16 ∧ c = hexChar k) → SameDigits ((l.zipIdx n).map f) l
  | [], _, _ => by simp [SameDigits]
  | c :: l, n, h => by
    simp only [List.zipIdx_cons, List.map_cons, SameDigits]
    refine ⟨?_, cased_same f hf l (n + 1) (fun c' hc' => h c' (List.mem_cons_of_mem _ hc'))⟩
    obtain ⟨k, hk, rfl⟩ := h c List.mem_cons_self
    unfold SameDigit
    rcases hf (hexChar k, n) with h' | h' <;> rw [h']
    exact upper_same ⟨k, hk⟩

theorem ite_eq_or_eq {α : Type} (P : Prop) [Decidable P] (x y : α) : (if P then x else y) = x ∨ (if P then x else y) = y := by
  split
  · exact .inl rfl
  · exact .inr rfl

theorem eip55_decodes (a : Bytes) : ∃ cs, Spec.Numeric.eip55 a = '0' :: 'x' :: cs ∧ hexDecode cs = hexDecode (hexEncode a) := by
  unfold Spec.Numeric.eip55
  simp only []
  rw [← hexEncode_eq_hexOf]
  exact ⟨_, rfl, hexDecode_congr _ _ (cased_same _ (fun _ => ite_eq_or_eq _ _ _) (hexEncode a) 0 (hexEncode_mem a))⟩

theorem hexChar_small : ∀ k : Fin 16, (hexChar k.val).toNat < 256 ∧ (hexChar k.val).toUpper.toNat < 256 := by decide

theorem hexEncode_small (a : Bytes) : ∀ c ∈ hexEncode a, c.toNat < 256 := by
  intro c hc
  obtain ⟨k, hk, rfl⟩ := hexEncode_mem a c hc
  exact (hexChar_small ⟨k, hk⟩).1

/-- for any condition `P`: on the specification's own condition `split` would first take the `if` inside its `nib` -/
theorem cased_small {P : Prop} [Decidable P] (k : Fin 16) :
    (if P then (hexChar k.val).toUpper else hexChar k.val).toNat < 256 := by
  split
  · exact (hexChar_small k).2
  · exact (hexChar_small k).1

theorem eip55_small (a : Bytes) : ∀ c ∈ Spec.Numeric.eip55 a, c.toNat < 256 := by
  unfold Spec.Numeric.eip55
  simp only []
  rw [← hexEncode_eq_hexOf]
  intro c hc
  simp only [List.mem_cons, List.mem_map] at hc
  rcases hc with rfl | rfl | ⟨⟨x, i⟩, hp, rfl⟩
  · decide
  · decide
  · obtain ⟨k, hk, rfl⟩ := hexEncode_mem a x (List.fst_mem_of_mem_zipIdx hp)
    exact cased_small ⟨k, hk⟩

end FFS.Lemmas.Eip55
