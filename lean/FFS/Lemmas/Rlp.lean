/- Lemmas about the RLP model below the level of whole trees (those are in FFS.Props.C06).
   `header_lt` and `header_prefix` state `header` as a classification of the first byte followed by one of two arm
   shapes (`arm`, `armL`) that strings and lists share; the canonical encodings are likewise one prefix (`pre`)
   followed by the payload. Everything else is stated about those. -/
import FFS.Lemmas.Bytes
import FFS.Lemmas.Outcome
import FFS.Model.Rlp
namespace FFS.Model.Rlp
open FFS FFS.Gen.RlpConsts Spec.Rlp

/-! The translated guards, pinned to the arithmetic facts the proofs use. A change of a constant or a
    comparison in /repo/pkg/rlp changes `Gen.RlpConsts` and breaks these. -/
theorem decCase0_iff (p : Nat) : decCase0 p = true ↔ p < 128 := by simp [decCase0]
theorem decCase1_iff (p : Nat) : decCase1 p = true ↔ p = 128 := by simp [decCase1]
theorem decCase2_iff (p : Nat) : decCase2 p = true ↔ (128 < p ∧ p ≤ 183) := by simp [decCase2]
theorem decCase3_iff (p : Nat) : decCase3 p = true ↔ (183 < p ∧ p < 192) := by simp [decCase3]
theorem decCase4_iff (p : Nat) : decCase4 p = true ↔ (192 ≤ p ∧ p ≤ 247) := by simp [decCase4]
theorem decCase5_iff (p : Nat) : decCase5 p = true ↔ 247 < p := by simp [decCase5]
theorem lenReject_iff (v : Nat) : lenReject v = true ↔ (2 ^ 63 ≤ v ∨ 2147483647 < v) := by
  simp [lenReject]
theorem encSingle_iff (len b0 : Nat) (isList : Bool) :
    encSingle len b0 isList = true ↔ (len = 1 ∧ isList = false ∧ b0 ≤ 127) := by
  simp [encSingle, and_assoc]
theorem encShort_iff (len : Nat) : encShort len = true ↔ len ≤ 55 := by simp [encShort]

def hdr (l : Bool) (p : Bytes) (n : Nat) : Hdr := if l then .sub p n else .leaf (.str p) n

/-- the shape every arm of `header` has once the length is known: a prefix of `1 + k` bytes (the first already
    taken off) announces `len` payload bytes; refused when the input is shorter than that -/
def arm (l : Bool) (k len : Nat) (t : Bytes) : Outcome Hdr :=
  if k + len ≤ t.length then .ok (hdr l ((t.drop k).take len) (1 + k + len)) else .err

/-- a long-form arm: the length is the big-endian value of the `k` bytes after the first, capped at `maxInt32` -/
def armL (l : Bool) (k : Nat) (t : Bytes) : Outcome Hdr :=
  if k ≤ t.length ∧ fromBE (t.take k) ≤ maxInt32 then arm l k (fromBE (t.take k)) t else .err

theorem minimalBytesToInt64_eq (d : Bytes) (h : fromBE d < 2 ^ 64) :
    minimalBytesToInt64 d = if fromBE d ≤ maxInt32 then .ok (fromBE d) else .err := by
  have hm : maxInt32 = 2147483647 := rfl
  simp only [minimalBytesToInt64, Nat.mod_eq_of_lt h, lenReject_iff]
  by_cases h2 : fromBE d ≤ maxInt32
  · rw [if_neg (by omega), if_pos h2]
  · rw [if_pos (by omega), if_neg h2]

/-- `k ≤ 8` (all a prefix byte can ask for) keeps the accumulated length inside the int64 the Go code holds it in -/
theorem extractLongLenAux_cons (k : Nat) (hk : k ≤ 8) (b : UInt8) (t : Bytes) :
    extractLongLenAux k (b :: t) =
      if k ≤ t.length ∧ fromBE (t.take k) ≤ maxInt32 then
        if k + fromBE (t.take k) ≤ t.length then .ok (fromBE (t.take k), 1 + k) else .err
      else .err := by
  have hlt : fromBE (t.take k) < 2 ^ 64 :=
    Nat.lt_of_lt_of_le (fromBE_lt _) (by
      rw [show (2 : Nat) ^ 64 = 256 ^ 8 by decide]
      exact Nat.pow_le_pow_right (by decide) (by simp; omega))
  unfold extractLongLenAux
  by_cases h : k ≤ t.length
  · rw [if_neg (by simp; omega), slice?_ok (by omega) (by simp; omega)]
    simp only [Nat.add_sub_cancel_left, List.drop_succ_cons, List.drop_zero, minimalBytesToInt64_eq _ hlt]
    by_cases h2 : fromBE (t.take k) ≤ maxInt32
    · rw [if_pos h2, if_pos ⟨h, h2⟩]
      simp only [List.length_cons]
      by_cases h3 : k + fromBE (t.take k) ≤ t.length
      · rw [if_neg (by omega), if_pos h3]
      · rw [if_pos (by omega), if_neg h3]
    · rw [if_neg h2, if_neg (fun h' => h2 h'.2)]
  · rw [if_pos (by simp; omega), if_neg (fun h' => h h'.1)]

theorem header_short_arm (l : Bool) (b : UInt8) (t : Bytes) (len : Nat) :
    (if len > (b :: t).length - 1 then Outcome.err
      else (slice? (b :: t) 1 (1 + len)).bind fun d => .ok (hdr l d (1 + len))) = arm l 0 len t := by
  unfold arm
  by_cases h : len ≤ t.length
  · rw [if_neg (by simp; omega), if_pos (by omega), slice?_ok (by omega) (by simp; omega)]
    simp [Outcome.bind]
  · rw [if_pos (by simp; omega), if_neg (by omega)]

theorem header_long_arm (l : Bool) (k : Nat) (hk : k ≤ 8) (b : UInt8) (t : Bytes) :
    ((extractLongLenAux k (b :: t)).bind fun x =>
      (slice? (b :: t) x.snd (x.snd + x.fst)).bind fun d => .ok (hdr l d (x.snd + x.fst))) = armL l k t := by
  rw [extractLongLenAux_cons k hk, armL, arm]
  by_cases h : k ≤ t.length ∧ fromBE (t.take k) ≤ maxInt32
  · rw [if_pos h, if_pos h]
    by_cases h3 : k + fromBE (t.take k) ≤ t.length
    · rw [if_pos h3, if_pos h3, Outcome.ok_bind, slice?_ok (by omega) (by simp; omega), Nat.add_comm 1 k,
        Nat.add_sub_cancel_left]
      rfl
    · rw [if_neg h3, if_neg h3]; rfl
  · rw [if_neg h, if_neg h]; rfl

/-- Go's byte subtraction `p - c`, modelled as `(p + 256 - c) % 256`, when it does not wrap -/
theorem byte_sub (c q : Nat) (h : q < 256) : (c + q + 256 - c) % 256 = q := by
  rw [show c + q + 256 - c = q + 256 by omega, Nat.add_mod_right, Nat.mod_eq_of_lt h]

theorem header_lt {b : UInt8} (h : b.toNat < 128) (t : Bytes) : header (b :: t) = .ok (.leaf (.str [b]) 1) := by
  simp [header, decCase0_iff, h]

/-- The other five cases of the switch of `header`, read off the prefix byte as the encoder writes it: a base (128
    strings, 192 lists) plus `q < 64`; `q < 56` is the payload length itself, otherwise `q - 55` length bytes follow.
    Byte subtraction does not wrap because the range of the prefix is known in each arm. -/
theorem header_prefix (l : Bool) (q : Nat) (hq : q < 64) (t : Bytes) :
    header (UInt8.ofNat ((if l then 192 else 128) + q) :: t) =
      if q < 56 then arm l 0 q t else armL l (q - 55) t := by
  cases l
  · have hp : (UInt8.ofNat (128 + q)).toNat = 128 + q := by simp [UInt8.toNat_ofNat']; omega
    unfold header
    simp only [Bool.false_eq_true, if_false, hp, decCase0_iff, decCase1_iff, decCase2_iff, decCase3_iff]
    rw [if_neg (by omega)]
    by_cases h : q < 56
    · rw [if_pos h]
      by_cases h0 : q = 0
      -- 0x80 has a case of its own in the switch; `arm false 0 0 t` evaluates to the same answer without looking at `t`
      · subst h0; rfl
      · rw [if_neg (by omega), if_pos (by omega), show (128 + q + 256 - shortString) % 256 = q from
          byte_sub 128 q (by omega)]
        exact header_short_arm false _ t q
    · rw [if_neg h, if_neg (by omega), if_neg (by omega), if_pos (by omega), extractLongLen,
        show (128 + q + 256 - (if false = true then longList else longString)) % 256 = q - 55 by
          rw [show 128 + q = 183 + (q - 55) by omega]; exact byte_sub 183 _ (by omega)]
      exact header_long_arm false _ (by omega) _ t
  · have hp : (UInt8.ofNat (192 + q)).toNat = 192 + q := by simp [UInt8.toNat_ofNat']; omega
    unfold header
    simp only [if_true, hp, decCase0_iff, decCase1_iff, decCase2_iff, decCase3_iff, decCase4_iff, decCase5_iff]
    rw [if_neg (by omega), if_neg (by omega), if_neg (by omega), if_neg (by omega)]
    by_cases h : q < 56
    · rw [if_pos h, if_pos (by omega), show (192 + q + 256 - shortList) % 256 = q from
        byte_sub 192 q (by omega)]
      exact header_short_arm true _ t q
    · rw [if_neg h, if_neg (by omega), if_pos (by omega), extractLongLen,
        show (192 + q + 256 - (if true = true then longList else longString)) % 256 = q - 55 by
          rw [show 192 + q = 247 + (q - 55) by omega]; exact byte_sub 247 _ (by omega)]
      exact header_long_arm true _ (by omega) _ t

/-- the Yellow-Paper prefix of a payload of `n` bytes (`l`: of a list) -/
def pre (l : Bool) (n : Nat) : Bytes :=
  if n < 56 then [UInt8.ofNat ((if l then 192 else 128) + n)]
  else UInt8.ofNat ((if l then 247 else 183) + (minBE n).length) :: minBE n

theorem Rl_eq (s : Bytes) : Rl s = pre true s.length ++ s := by
  unfold Rl pre; split <;> rfl

theorem Rb_eq (x : Bytes) : Rb x = pre false x.length ++ x ∨ ∃ b, x = [b] ∧ b.toNat < 128 ∧ Rb x = x := by
  unfold Rb pre
  split
  · rename_i b
    by_cases h : b.toNat < 128
    · exact Or.inr ⟨b, rfl, h, if_pos h⟩
    · exact Or.inl (by rw [if_neg h]; rfl)
  · exact Or.inl (by split <;> rfl)

theorem pre_length (l : Bool) (n : Nat) : (pre l n).length = if n < 56 then 1 else 1 + (minBE n).length := by
  unfold pre; split <;> simp [Nat.add_comm]

theorem pre_length_le {n k : Nat} (l : Bool) (h : n < 56 ∨ n < 256 ^ k) : (pre l n).length ≤ 1 + k := by
  rw [pre_length]
  split
  · omega
  · have := minBE_length_le (h.resolve_left ‹_›)
    omega

theorem Rl_length_le (s : Bytes) (k : Nat) (h : s.length < 56 ∨ s.length < 256 ^ k) :
    (Rl s).length ≤ 1 + k + s.length := by
  have := pre_length_le true h
  rw [Rl_eq, List.length_append]; omega

theorem Rb_length_le (d : Bytes) (k : Nat) (h : d.length < 56 ∨ d.length < 256 ^ k) :
    (Rb d).length ≤ 1 + k + d.length := by
  have := pre_length_le false h
  rcases Rb_eq d with e | ⟨_, _, _, e⟩ <;> rw [e]
  · rw [List.length_append]; omega
  · omega

theorem lt_Rl_length (s : Bytes) : s.length < (Rl s).length := by
  rw [Rl_eq, List.length_append, pre_length]; split <;> omega

theorem Rl_length_mono {s p : Bytes} (h : s.length ≤ p.length) : (Rl s).length ≤ (Rl p).length := by
  have := minBE_length_le (Nat.lt_of_le_of_lt h (lt_pow_minBE_length p.length))
  simp only [Rl_eq, List.length_append, pre_length]
  split <;> split <;> omega

theorem rlp_length_pos (t : Item) : 0 < (rlp t).length := by
  cases t with
  | str b =>
    rw [rlp]
    rcases Rb_eq b with e | ⟨_, rfl, _, e⟩ <;> rw [e]
    · unfold pre; split <;> simp
    · simp
  | list xs => rw [rlp]; exact Nat.zero_lt_of_lt (lt_Rl_length _)

theorem rlp_ne_nil (t : Item) : rlp t ≠ [] := fun h => by simpa [h] using rlp_length_pos t

theorem header_pre (l : Bool) (x rest : Bytes) (hmax : x.length ≤ maxInt32) :
    header (pre l x.length ++ (x ++ rest)) = .ok (hdr l x ((pre l x.length).length + x.length)) := by
  have hm : maxInt32 = 2147483647 := rfl
  unfold pre
  split
  · rename_i h56
    rw [List.singleton_append, header_prefix l _ (by omega), if_pos h56, arm, if_pos (by simp)]
    simp [Nat.add_comm]
  · have hk : (minBE x.length).length ≤ 4 := minBE_length_le (by omega)
    have hk1 : 0 < (minBE x.length).length := minBE_length_pos (by omega)
    rw [List.cons_append, show (if l = true then 247 else 183) + (minBE x.length).length =
        (if l = true then 192 else 128) + (55 + (minBE x.length).length) by cases l <;> simp <;> omega,
      header_prefix l _ (by omega), if_neg (by omega), Nat.add_sub_cancel_left, armL, List.take_left, fromBE_minBE,
      if_pos ⟨by simp, hmax⟩, arm, if_pos (by simp)]
    simp [Nat.add_comm]

theorem header_Rl (s rest : Bytes) (hmax : s.length ≤ maxInt32) :
    header (Rl s ++ rest) = .ok (.sub s (Rl s).length) := by
  rw [Rl_eq, List.append_assoc, header_pre true s rest hmax, List.length_append]; rfl

theorem header_Rb (b rest : Bytes) (hmax : b.length ≤ maxInt32) :
    header (Rb b ++ rest) = .ok (.leaf (.str b) (Rb b).length) := by
  rcases Rb_eq b with e | ⟨c, rfl, hc, e⟩ <;> rw [e]
  · rw [List.append_assoc, header_pre false b rest hmax, List.length_append]; rfl
  · exact header_lt hc rest

/-- what `header` returns lies inside the input, is below the decoder's size cap, and its canonical encoding is no
    longer than the bytes consumed -/
def Hdr.Sound (bs : Bytes) : Hdr → Prop
  | .leaf it n => n ≤ bs.length ∧ ∃ d, it = .str d ∧ d.length < 2 ^ 31 ∧ (Rb d).length ≤ n
  | .sub p n => n ≤ bs.length ∧ p.length < 2 ^ 31 ∧ (Rl p).length ≤ n

theorem arm_sat {l : Bool} {k len : Nat} {t : Bytes} (b : UInt8) (hk : len < 56 ∨ len < 256 ^ k) (hm : len < 2 ^ 31) :
    (arm l k len t).Sat (Hdr.Sound (b :: t)) := by
  unfold arm
  split
  · have hlen : ((t.drop k).take len).length = len := by simp; omega
    cases l
    · exact Outcome.sat_ok ⟨by simp; omega, _, rfl, by omega, by have := Rb_length_le _ k (hlen ▸ hk); omega⟩
    · exact Outcome.sat_ok ⟨by simp; omega, by omega, by have := Rl_length_le _ k (hlen ▸ hk); omega⟩
  · exact Outcome.sat_err

theorem header_sat {bs : Bytes} (hne : bs ≠ []) : (header bs).Sat (Hdr.Sound bs) := by
  obtain ⟨b, t, rfl⟩ := List.exists_cons_of_ne_nil hne
  have hb := b.toNat_lt
  by_cases h : b.toNat < 128
  · rw [header_lt h]
    exact Outcome.sat_ok ⟨by simp, _, rfl, by simp, by simp [Rb, h]⟩
  -- any other byte is its base plus an offset below 64
  have key : ∀ (l : Bool) q, q < 64 → b = UInt8.ofNat ((if l then 192 else 128) + q) →
      (header (b :: t)).Sat (Hdr.Sound (b :: t)) := by
    intro l q hq e
    rw [e, header_prefix l q hq]
    split
    · exact arm_sat _ (Or.inl ‹_›) (by omega)
    · unfold armL
      split
      · rename_i hk
        have hlt := fromBE_lt (t.take (q - 55))
        rw [List.length_take, Nat.min_eq_left hk.1] at hlt
        exact arm_sat _ (Or.inr hlt) (by have : maxInt32 = 2147483647 := rfl; omega)
      · exact Outcome.sat_err
  by_cases h2 : 192 ≤ b.toNat
  · exact key true (b.toNat - 192) (by omega) (UInt8.toNat_inj.mp (by simp [UInt8.toNat_ofNat']; omega))
  · exact key false (b.toNat - 128) (by omega) (UInt8.toNat_inj.mp (by simp [UInt8.toNat_ofNat']; omega))

theorem decOne_succ (f : Nat) (bs : Bytes) :
    decOne (f + 1) bs = (header bs).bind fun h =>
      match h with
      | .leaf it n => .ok (it, n)
      | .sub p n => (decMany f p).bind fun c => .ok (.list c, n) := by
  rw [decOne]
  cases header bs with
  | ok h =>
    cases h with
    | leaf it n => rfl
    | sub p n => simp only [Outcome.ok_bind]; cases decMany f p <;> rfl
  | err => rfl
  | panic => rfl

theorem decMany_succ_cons (f : Nat) (b : UInt8) (t : Bytes) :
    decMany (f + 1) (b :: t) = (decOne f (b :: t)).bind fun r =>
      (decMany f ((b :: t).drop r.2)).bind fun more => .ok (r.1 :: more) := by
  rw [decMany]
  cases decOne f (b :: t) with
  | ok r => simp only [Outcome.ok_bind]; cases decMany f ((b :: t).drop r.2) <;> rfl
  | err => rfl
  | panic => rfl

theorem Decode_cons (b : UInt8) (t : Bytes) :
    Decode (b :: t) = (decOne (fuelFor (b :: t)) (b :: t)).bind fun r => .ok (some r.1, r.2) := by
  rw [Decode]
  cases decOne (fuelFor (b :: t)) (b :: t) <;> rfl

theorem int64ToMinimalBytes_eq {v : Nat} (h : v < 2 ^ 64) : int64ToMinimalBytes v = minBE v := by
  unfold int64ToMinimalBytes int64ToBytes
  exact dropWhile_toBE8 (by omega)

theorem encodeBytes_str (b : Bytes) (h : b.length < 2 ^ 64) :
    encodeBytes b false = Rb b := by
  match b, h with
  | [], _ => simp [encodeBytes, Rb, shortString, encSingle_iff, encShort_iff]
  | [x], _ =>
    by_cases hx : x.toNat < 128
    · have : x.toNat ≤ 127 := by omega
      simp [encodeBytes, Rb, encSingle_iff, hx, this]
    · have : ¬ x.toNat ≤ 127 := by omega
      simp [encodeBytes, Rb, encSingle_iff, encShort_iff, shortString, hx, this]
  | x :: y :: t, h =>
    simp only [encodeBytes, Rb, shortString, shortToLong, encSingle_iff, encShort_iff,
      Bool.false_eq_true, if_false]
    rw [if_neg (by simp)]
    by_cases h56 : (x :: y :: t).length < 56
    · rw [if_pos (by omega), if_pos h56]
    · rw [if_neg (by omega), if_neg h56, int64ToMinimalBytes_eq h]

theorem encodeBytes_list (s : Bytes) (h : s.length < 2 ^ 64) :
    encodeBytes s true = Rl s := by
  simp only [encodeBytes, Rl, shortList, shortToLong, encSingle_iff, encShort_iff, if_true]
  rw [if_neg (by simp)]
  by_cases h56 : s.length < 56
  · rw [if_pos (by omega), if_pos h56]
  · rw [if_neg (by omega), if_neg h56, int64ToMinimalBytes_eq h]

end FFS.Model.Rlp
