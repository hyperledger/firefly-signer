/-
  FFS.Lemmas.Eip712Fuel — the six mutually recursive encoders of FFS.Model.Eip712 are monotone in their fuel: once a
  result is not `.panic` (out of fuel: Props.C14 shows they have no other panic), more fuel gives the same result. So
  "the digest of a document" does not depend on the amount of fuel the driver happens to pass, as long as it suffices
  (`docNeed`, Props.C14).
-/
import FFS.Lemmas.Eip712Step
namespace FFS.Lemmas.Eip712Fuel
open FFS FFS.Model.Abi FFS.Model.Eip712 FFS.Lemmas.Eip712Step

theorem encoders_mono (ts : TypeSet) : ∀ f : Nat,
    (∀ tn v, encodeElement f tn v ts ≠ .panic → encodeElement (f + 1) tn v ts = encodeElement f tn v ts) ∧
    (∀ tn v, hashStruct f tn v ts ≠ .panic → hashStruct (f + 1) tn v ts = hashStruct f tn v ts) ∧
    (∀ tn v, Model.Eip712.encodeData f tn v ts ≠ .panic →
      Model.Eip712.encodeData (f + 1) tn v ts = Model.Eip712.encodeData f tn v ts) ∧
    (∀ ms ks vs, encodeMembers f ms ks vs ts ≠ .panic → encodeMembers (f + 1) ms ks vs ts = encodeMembers f ms ks vs ts) ∧
    (∀ tn v, hashArray f tn ts v ≠ .panic → hashArray (f + 1) tn ts v = hashArray f tn ts v) ∧
    (∀ t xs, hashElems f t xs ts ≠ .panic → hashElems (f + 1) t xs ts = hashElems f t xs ts) := by
  intro f
  induction f with
  | zero =>
    exact ⟨fun _ _ h => absurd rfl h, fun _ _ h => absurd rfl h, fun _ _ h => absurd rfl h, fun _ _ _ h => absurd rfl h,
      fun _ _ h => absurd rfl h, fun _ _ h => absurd rfl h⟩
  | succ f ih =>
    obtain ⟨iE, iS, iD, iM, iA, iH⟩ := ih
    refine ⟨fun tn v => ?_, fun tn v => ?_, fun tn v => ?_, fun ms ks vs => ?_, fun tn v => ?_, fun t xs => ?_⟩
    · rw [encodeElement_succ, encodeElement_succ]
      split
      · exact iA tn v
      · split
        · exact iS tn v
        · exact fun _ => rfl
    · rw [hashStruct_succ, hashStruct_succ]
      exact Outcome.bind_mono (iD tn v) fun _ _ _ => rfl
    · rw [encodeData_succ, encodeData_succ]
      refine Outcome.bind_mono (fun _ => rfl) fun r _ => ?_
      cases v with
      | obj ks vs => exact Outcome.bind_mono (iM r.1 ks vs) fun _ _ _ => rfl
      | _ => exact fun _ => rfl
    · cases ms with
      | nil => exact fun _ => rfl
      | cons m ms =>
        rw [encodeMembers_cons, encodeMembers_cons]
        exact Outcome.bind_mono (iE _ _) fun _ _ => Outcome.bind_mono (iM ms ks vs) fun _ _ _ => rfl
    · rw [hashArray_succ, hashArray_succ]
      cases v with
      | arr xs =>
        exact Outcome.bind_mono (fun _ => rfl) fun _ _ => Outcome.bind_mono (iH _ xs) fun _ _ _ => rfl
      | _ => exact fun _ => rfl
    · cases xs with
      | nil => exact fun _ => rfl
      | cons x xs =>
        rw [hashElems_cons, hashElems_cons]
        exact Outcome.bind_mono (iE t x) fun _ _ => Outcome.bind_mono (iH t xs) fun _ _ _ => rfl
end FFS.Lemmas.Eip712Fuel
