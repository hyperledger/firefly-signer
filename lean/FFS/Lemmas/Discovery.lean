/-
  The discovery argument shared by the two models of `notifyNewFiles` (FsWallet: a fold with `mapSet`;
  FsWalletConc.scan: a recursion with plain cons): the account list is duplicate-free and is exactly the key set of
  the file map; a binding for `a` either updates the map only (`a` already a key) or appends `a` to the list; a pass
  is a fold of such steps.
-/
namespace FFS.Discovery
variable {α β : Type}

theorem nodup_snoc {l : List α} {x : α} (h : l.Nodup) (hx : x ∉ l) : (l ++ [x]).Nodup :=
  (List.perm_append_singleton x l).nodup_iff.mpr (List.nodup_cons.mpr ⟨hx, h⟩)

def Keys (look : α → Option β) (k : List α) : Prop :=
  k.Nodup ∧ ∀ a, a ∈ k ↔ (look a).isSome = true

variable {look look' : α → Option β} {k : List α} {a : α} {v : β}

theorem Keys.update_old [DecidableEq α] (h : Keys look k) (hl : (look a).isSome = true)
    (h' : ∀ a', look' a' = if a = a' then some v else look a') : Keys look' k := by
  refine ⟨h.1, fun a' => ?_⟩
  rw [h', h.2]
  split
  · subst a'; simp [hl]
  · rfl

theorem Keys.update_new [DecidableEq α] (h : Keys look k) (hl : look a = none)
    (h' : ∀ a', look' a' = if a = a' then some v else look a') : Keys look' (k ++ [a]) := by
  have ha : a ∉ k := fun hk => by simpa [hl] using (h.2 a).mp hk
  refine ⟨nodup_snoc h.1 ha, fun a' => ?_⟩
  rw [h', List.mem_append, List.mem_singleton, h.2]
  split
  · subst a'; simp
  · simp [Ne.symm ‹_›]

/-- A pass is a fold. If — under an invariant `I` — the keys after one step are the keys before it and whatever the
    step's element matches (`M`), then the keys after the pass are the keys before it and whatever some element of
    the pass matches. -/
theorem foldl_grow {σ φ : Type} (step : σ → φ → σ) (I : σ → Prop) (keys : σ → List α) (M : φ → α → Prop)
    (h : ∀ s f, I s → I (step s f) ∧ ∀ a, a ∈ keys (step s f) ↔ a ∈ keys s ∨ M f a) (fs : List φ) :
    ∀ s, I s → I (fs.foldl step s) ∧ ∀ a, a ∈ keys (fs.foldl step s) ↔ a ∈ keys s ∨ ∃ f ∈ fs, M f a := by
  induction fs with
  | nil => exact fun s hs => ⟨hs, by simp⟩
  | cons f fs ih =>
    intro s hs
    obtain ⟨i₂, m₂⟩ := ih _ (h s f hs).1
    exact ⟨i₂, fun a => by simp [m₂, (h s f hs).2, or_assoc]⟩

end FFS.Discovery
