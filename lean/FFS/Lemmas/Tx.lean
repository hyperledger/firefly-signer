/- The items of a transaction list. Each of the three shape tests of `validTxScalars` accepts exactly the items that
   the signing side writes (`wrapInt`, `wrapAddress`, a string) for the value that recovery reads back from them, so
   both directions, sign → recover (C01) and recover → specification (C10), rest on the same three statements.
   With them the two small equations both files need of the recovery path (`vNotLegacy_iff`, `recoverCommon_eq`). -/
import FFS.Lemmas.Bytes
import FFS.Model.Tx
namespace FFS.Model.Tx
open FFS FFS.Model.Rlp FFS.Gen.TxConsts

theorem vNotLegacy_iff (v : Int) : vNotLegacy v = true ↔ v ≠ 27 ∧ v ≠ 28 := by
  simp [vNotLegacy]

theorem scalar_eq_wrapInt (n : Nat) : Spec.Tx.scalar n = wrapInt n := rfl

theorem toItem_eq_wrapAddress (to : Option Bytes) : Spec.Tx.toItem to = wrapAddress to := by
  cases to <;> rfl

theorem itemInt_wrapInt (n : Nat) : itemInt (wrapInt n) = some n := by
  simp [itemInt, wrapInt, fromBE_minBE]

theorem isCanonInt_iff {x : Item} : isCanonInt x = true ↔ x = wrapInt (big (itemInt x)) := by
  cases x with
  | list xs => simp [isCanonInt, wrapInt]
  | str b =>
    have hb : isCanonInt (.str b) = true ↔ NoLead b := by
      cases b <;> simp [isCanonInt, NoLead]
    rw [hb]
    constructor
    · intro h; exact congrArg Item.str (minBE_fromBE_canon b h).symm
    · intro h; injection h with h; rw [h]; exact minBE_noLead _

theorem isCanonInt_wrapInt (n : Nat) : isCanonInt (wrapInt n) = true :=
  isCanonInt_iff.2 (by rw [itemInt_wrapInt]; rfl)

theorem itemInt_of_canon {x : Item} (h : isCanonInt x = true) : itemInt x = some (big (itemInt x)) :=
  (congrArg itemInt (isCanonInt_iff.1 h)).trans (itemInt_wrapInt _)

theorem itemAddr_wrapAddress {to : Option Bytes} (hto : ∀ a, to = some a → a.length = 20) :
    itemAddr (wrapAddress to) = to := by
  cases hta : to with
  | none => simp [wrapAddress, itemAddr]
  | some a => simp [wrapAddress, itemAddr, hto a hta]

theorem isAddrOrEmpty_iff {x : Item} : isAddrOrEmpty x = true ↔ x = wrapAddress (itemAddr x) := by
  cases x with
  | list xs => cases h : itemAddr (.list xs) <;> simp [isAddrOrEmpty, wrapAddress]
  | str b =>
    by_cases h20 : b.length = 20 <;> simp [isAddrOrEmpty, itemAddr, wrapAddress, h20]

theorem isAddrOrEmpty_wrapAddress {to : Option Bytes} (hto : ∀ a, to = some a → a.length = 20) :
    isAddrOrEmpty (wrapAddress to) = true :=
  isAddrOrEmpty_iff.2 (by rw [itemAddr_wrapAddress hto])

theorem isStr_iff {x : Item} : isStr x = true ↔ x = .str (itemBytes x) := by
  cases x <;> simp [isStr, itemBytes]

theorem recoverCommon_eq (C : Secp.Curve) (tx : Tx) (msg : Bytes) (cid v : Int) (r s : Bytes) :
    recoverCommon C tx msg cid v r s =
      (Secp.recover C { V := some v, R := some (fromBE r), S := some (fromBE s) } msg cid).bind fun a =>
        .ok (a, tx, msg) := by
  unfold recoverCommon
  cases Secp.recover C { V := some v, R := some (fromBE r), S := some (fromBE s) } msg cid <;> rfl

end FFS.Model.Tx
