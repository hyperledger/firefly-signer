/-
  FFS.Lemmas.Outcome — reasoning about `Outcome` computations without unfolding them.
  The models spell error propagation as `match x with | .ok a => f a | .err => .err | .panic => .panic`; that is
  `x.bind f` (by `cases x <;> rfl`, stated once per model function where it pays), and the lemmas here then say how a
  result passes through a bind and through a guard `if c then .err else …`. `Sat x Q` ("x does not panic, and what
  it returns satisfies Q") carries totality and a postcondition through a function together.
  (`Outcome.bind_ne_panic`, the totality rule for a bind, stands next to the definition in Util/Basic, written with
  `>>=`; it applies to `.bind` goals as it is.)
-/
import FFS.Util.Basic
namespace FFS
namespace Outcome
variable {α β : Type}

@[simp] theorem ok_bind (a : α) (f : α → Outcome β) : (Outcome.ok a).bind f = f a := rfl
@[simp] theorem err_bind (f : α → Outcome β) : (Outcome.err : Outcome α).bind f = .err := rfl
@[simp] theorem panic_bind (f : α → Outcome β) : (Outcome.panic : Outcome α).bind f = .panic := rfl

theorem bind_eq_ok {x : Outcome α} {f : α → Outcome β} {b : β} :
    x.bind f = .ok b ↔ ∃ a, x = .ok a ∧ f a = .ok b := by
  cases x <;> simp

theorem map_eq_ok {x : Outcome α} {f : α → β} {b : β} : x.map f = .ok b ↔ ∃ a, x = .ok a ∧ f a = b := by
  cases x <;> simp [map]

theorem map_ne_panic {x : Outcome α} (f : α → β) (h : x ≠ .panic) : x.map f ≠ .panic := by
  cases x with
  | panic => exact absurd rfl h
  | _ => simp [map]

theorem ofOption_ne_panic (o : Option α) : ofOption o ≠ .panic := by
  cases o <;> simp [ofOption]

theorem ofOption_eq_ok {o : Option α} {a : α} : ofOption o = .ok a ↔ o = some a := by
  cases o <;> simp [ofOption]

/-- Both sides of a bind may change (more fuel, another type set) as long as a result other than `.panic` is kept. -/
theorem bind_mono {x x' : Outcome α} {f f' : α → Outcome β} (hx : x ≠ .panic → x' = x)
    (hf : ∀ a, x = .ok a → f a ≠ .panic → f' a = f a) (h : x.bind f ≠ .panic) : x'.bind f' = x.bind f := by
  cases x with
  | ok a => rw [hx (by simp)]; exact hf a rfl h
  | err => rw [hx (by simp)]; rfl
  | panic => exact absurd rfl h

theorem bind_congr {x x' : Outcome α} {f f' : α → Outcome β} (hx : x' = x)
    (hf : ∀ a, x = .ok a → f' a = f a) : x'.bind f' = x.bind f := by
  subst hx
  cases x' with
  | ok a => exact hf a rfl
  | _ => rfl

section guards
variable {c : Prop} [Decidable c] {x : Outcome α} {a : α}

theorem ite_err_eq_ok : (if c then .err else x) = .ok a ↔ ¬ c ∧ x = .ok a := by by_cases h : c <;> simp [h]
theorem ite_panic_eq_ok : (if c then .panic else x) = .ok a ↔ ¬ c ∧ x = .ok a := by by_cases h : c <;> simp [h]
theorem ite_err_ne_panic : (if c then .err else x) ≠ .panic ↔ (¬ c → x ≠ .panic) := by by_cases h : c <;> simp [h]
theorem ite_panic_ne_panic : (if c then .panic else x) ≠ .panic ↔ ¬ c ∧ x ≠ .panic := by by_cases h : c <;> simp [h]

theorem ite_ne_panic {y : Outcome α} (hx : x ≠ .panic) (hy : y ≠ .panic) : (if c then x else y) ≠ .panic := by
  split <;> assumption

end guards

def Sat (x : Outcome α) (Q : α → Prop) : Prop := x ≠ .panic ∧ ∀ a, x = .ok a → Q a

theorem sat_ok {a : α} {Q : α → Prop} (h : Q a) : (Outcome.ok a).Sat Q :=
  ⟨by simp, fun _ e => by cases e; exact h⟩

theorem sat_err {Q : α → Prop} : (Outcome.err : Outcome α).Sat Q := ⟨by simp, fun _ e => by cases e⟩

theorem Sat.bind {x : Outcome α} {f : α → Outcome β} {P : α → Prop} {Q : β → Prop}
    (hx : x.Sat P) (hf : ∀ a, x = .ok a → P a → (f a).Sat Q) : (x.bind f).Sat Q := by
  cases x with
  | ok a => exact hf a rfl (hx.2 a rfl)
  | err => exact sat_err
  | panic => exact absurd rfl hx.1

theorem sat_ite_err {c : Prop} [Decidable c] {x : Outcome α} {Q : α → Prop} (h : ¬ c → x.Sat Q) :
    (if c then .err else x).Sat Q := by
  split
  · exact sat_err
  · exact h ‹_›

end Outcome

theorem slice?_ok {α : Type} {xs : List α} {lo hi : Nat} (h1 : lo ≤ hi) (h2 : hi ≤ xs.length) :
    slice? xs lo hi = .ok ((xs.drop lo).take (hi - lo)) := by
  simp [slice?, h1, h2]

theorem slice?_sat {α : Type} {xs : List α} {lo hi : Nat} (h1 : lo ≤ hi) (h2 : hi ≤ xs.length) :
    (slice? xs lo hi).Sat fun w => w.length = hi - lo := by
  rw [slice?_ok h1 h2]
  exact Outcome.sat_ok (by rw [List.length_take, List.length_drop]; omega)

end FFS
