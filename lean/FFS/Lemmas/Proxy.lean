/-
  Inversion lemmas for FFS.Model.Proxy: what each layer of the processor (nonceLookup, sendTransaction with its
  signing step, processRPC) can return, with the regenerated guards of Gen.ProxyFacts put in once — by evaluation:
  where a constructor closes a goal that still shows `if nullNonceRejected then … else …` (or `badFromIsError`,
  `nilMemberGuard`), the guard computes to `true`; that is also why `NonceSpec` has no case for a null count.
  C16 (well-formed replies) and C09 (ids, what is forwarded) read their facts off these.
-/
import FFS.Model.Proxy
namespace FFS.Model.Proxy
open Lean FFS FFS.Gen.ProxyFacts

variable (mem : Members) (w : Wallet) (script : Script) (id : Json)

/-- the outcomes of the nonce step and when each arises; `res` is the backend's answer to the count request -/
inductive NonceSpec (f : Json) (res : Resp × Bool) : Option Nat → NonceLookup → Prop
  | supplied (k : Nat) : NonceSpec f res (some k) (.got [] (some k))
  | badFrom : addrOfJson f = none → NonceSpec f res none .badFrom
  | failed {a : Bytes} : addrOfJson f = some a → NonceSpec f res none (.failed [countFwd a])
  | reported {a : Bytes} {k : Nat} : addrOfJson f = some a → res.2 = false →
      (res.1.result.bind fun v => hexIntOf v) = some (some k) → NonceSpec f res none (.got [countFwd a] (some k))

theorem nonceLookup_spec (f : Json) (nonce : Option Nat) :
    NonceSpec f (syncRequest script (Json.str "internal") "eth_getTransactionCount") nonce
      (nonceLookup script f nonce) := by
  unfold nonceLookup
  split
  · exact .supplied _
  · split
    · exact .badFrom ‹_›
    · dsimp only
      split
      · exact .failed ‹_›
      · split
        · exact .reported ‹_› (Bool.eq_false_iff.mpr ‹_›) ‹_›
        · exact .failed ‹_›
        · exact .failed ‹_›

/-- the forwards of a nonce step are count requests (none when the nonce was supplied) -/
def CountOnly (pre : List Fwd) : Prop := pre = [] ∨ ∃ a, pre = [countFwd a]

/-- what `sendTransaction` returns: an error reply built here after at most a count request, or the backend's answer
    to the one raw transaction, signed by the wallet for the decoded `from` it holds -/
inductive SendOut (params : List Json) : List Fwd × Resp × Bool → Prop
  | refused {pre : List Fwd} (c : Int) : CountOnly pre → SendOut params (pre, errResp id c, true)
  | submitted {p0 f : Json} {t : List Json} {nonce n : Option Nat} {pre : List Fwd} {a raw : Bytes} :
      params = p0 :: t → decodeTx p0 (mem p0) = some (some f, nonce) → nonceLookup script f nonce = .got pre n →
      CountOnly pre → addrOfJson f = some a → a ∈ w.accounts → w.sign a (txOfJson (mem p0) n) = .ok raw →
      SendOut params
        (pre ++ [Fwd.rawTx a p0 n (txOfJson (mem p0) n) raw], syncRequest script id "eth_sendRawTransaction")

theorem sendTransaction_out (params : List Json) :
    SendOut mem w script id params (sendTransaction mem w script id params) := by
  unfold sendTransaction
  split
  · exact .refused _ (.inl rfl)
  next p0 t =>
    split
    · exact .refused _ (.inl rfl)
    · exact .refused _ (.inl rfl)
    next f nonce hd =>
      have hs := nonceLookup_spec script f nonce
      split
      · exact .refused _ (.inl rfl)
      next pre hl =>
        rw [hl] at hs
        cases hs
        exact .refused _ (.inr ⟨_, rfl⟩)
      next pre n hl =>
        have hp : CountOnly pre := by
          rw [hl] at hs
          cases hs
          · exact .inl rfl
          · exact .inr ⟨_, rfl⟩
        unfold signAndSend
        split
        · exact .refused _ hp
        next a ha =>
          split
          · exact .refused _ hp
          next hw =>
            split
            next raw hsg => exact .submitted rfl hd hl hp ha (by simpa using hw) hsg
            · exact .refused _ hp

/-- the id a response to `req` carries: the request's own, `null` when it has none, the fixed 1 for a nil member -/
def reqId : Option Req → Json
  | none => Json.num (JsonNumber.fromNat 1)
  | some r => r.id.getD Json.null

/-- the responses the proxy hands back: version 2.0, the id asked for, an error code or a result -/
inductive Built : Resp → Prop
  | err (c : Int) : Built (errResp id c)
  | ok (j : Json) : Built ⟨"2.0", id, some j, none⟩

theorem syncRequest_built (m : String) : Built id (syncRequest script id m).1 := by
  unfold syncRequest
  split
  · exact .ok _
  · exact .ok _
  · exact .ok _
  · exact .err _
  · exact .err _
  · exact .err _
  · exact .ok _
  · exact .err _

theorem processRPC_built (req : Option Req) : Built (reqId req) (processRPC mem w script req).2.1 := by
  unfold processRPC
  split
  · exact .err _
  next r =>
    split
    next h => rw [reqId, h]; exact .err _
    next id h =>
      rw [reqId, h]
      split
      · exact .ok _
      · split
        · match sendTransaction mem w script id r.params, sendTransaction_out mem w script id r.params with
          | _, .refused c _ => exact .err c
          | _, .submitted .. => exact syncRequest_built ..
        · exact syncRequest_built ..

end FFS.Model.Proxy
