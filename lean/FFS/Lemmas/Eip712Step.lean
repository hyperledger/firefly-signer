/-
  FFS.Lemmas.Eip712Step — what one unit of fuel does in each of the six mutually recursive encoders of
  FFS.Model.Eip712, and what `EncodeTypedDataV4` does with their results, as equations in bind form. The inductions
  on the fuel (Eip712Fuel, Eip712Closure, Props.C04, Props.C14) go through these and `FFS.Outcome`'s bind lemmas; none
  of them unfolds an encoder.
  `fuel_stable` turns "one more unit changes nothing" into "no larger amount changes anything".
-/
import FFS.Model.Eip712
import FFS.Lemmas.Outcome
namespace FFS.Lemmas.Eip712Step
open FFS FFS.Model.Abi FFS.Model.Eip712

theorem fuel_stable {α : Type} (g : Nat → α) (f : Nat) (h : ∀ n, f ≤ n → g n = g f → g (n + 1) = g n) :
    ∀ j, g (f + j) = g f
  | 0 => rfl
  | j + 1 => by
    have ih := fuel_stable g f h j
    rw [← Nat.add_assoc, h _ (Nat.le_add_right f j) ih, ih]

/-- the elementary branch of `encodeElement`, which looks at neither the fuel nor the type set: with no fuel left to
    recurse on and no struct types, it is all that can answer (for a name that does not end in `]`) -/
def encodeAtom (typeName : String) (v : Ext) : Outcome Bytes := encodeElement 1 typeName v []

/-- the part of `hashArray` that looks at neither the fuel nor the type set: where the element type ends in an array
    type name that admits `len` elements -/
def arrayCut (typeName : String) (len : Nat) : Option Nat :=
  let cs := typeName.toList
  match lastOpen cs with
  | none => none
  | some openPos =>
    if openPos = 0 ∨ cs.getLast? != some ']' then none
    else
      let dimStr := (cs.drop (openPos + 1)).dropLast
      let dimOK : Bool :=
        if dimStr.isEmpty then true
        else match atoi dimStr with
          | some d => decide ((len : Int) = d)
          | none => false
      if !dimOK then none else some openPos

theorem encodeElement_succ (f : Nat) (tn : String) (v : Ext) (ts : TypeSet) :
    encodeElement (f + 1) tn v ts =
      if tn.toList.getLast? == some ']' then hashArray f tn ts v
      else if (tsLookup ts tn).isSome then hashStruct f tn v ts
      else encodeAtom tn v := by
  -- both sides are the model's two tests, on the left for `ts`, inside `encodeAtom` for `[]`
  by_cases h1 : (tn.toList.getLast? == some ']') = true
  · rw [if_pos h1]
    exact if_pos h1
  · by_cases h2 : (tsLookup ts tn).isSome = true
    · rw [if_neg h1, if_pos h2]
      exact (if_neg h1).trans (if_pos h2)
    · rw [if_neg h1, if_neg h2]
      exact ((if_neg h1).trans (if_neg h2)).trans ((if_neg h1).trans (if_neg Bool.false_ne_true)).symm

theorem hashStruct_succ (f : Nat) (tn : String) (v : Ext) (ts : TypeSet) :
    hashStruct (f + 1) tn v ts =
      (Model.Eip712.encodeData f tn v ts).bind fun o => .ok (match o with | none => zeros 32 | some enc => keccak enc) := by
  -- unfolded by computation: `rw [hashStruct]` would have Lean derive the equation lemmas of the whole mutual block
  conv => lhs; whnf
  cases Model.Eip712.encodeData f tn v ts with
  | ok o => cases o <;> rfl
  | _ => rfl

theorem encodeData_succ (f : Nat) (tn : String) (v : Ext) (ts : TypeSet) :
    Model.Eip712.encodeData (f + 1) tn v ts =
      (encodeType tn ts).bind fun r => match v with
        | .null => .ok none
        | .obj ks vs => (encodeMembers f r.1 ks vs ts).bind fun body => .ok (some (keccak (Model.Eip712.utf8 r.2) ++ body))
        | _ => .err := by
  conv => lhs; whnf
  cases encodeType tn ts with
  | ok r =>
    obtain ⟨ms, te⟩ := r
    cases v with
    | obj ks vs =>
      simp only [Outcome.ok_bind]
      cases encodeMembers f ms ks vs ts <;> rfl
    | _ => rfl
  | _ => rfl

theorem encodeMembers_nil (f : Nat) (ks : List String) (vs : List Ext) (ts : TypeSet) :
    encodeMembers (f + 1) [] ks vs ts = .ok [] :=
  rfl

theorem encodeMembers_cons (f : Nat) (m : Member) (ms : List Member) (ks : List String) (vs : List Ext) (ts : TypeSet) :
    encodeMembers (f + 1) (m :: ms) ks vs ts =
      (encodeElement f m.type ((lookupKey ks vs m.name).getD .null) ts).bind fun b =>
        (encodeMembers f ms ks vs ts).bind fun rest => .ok (b ++ rest) := by
  conv => lhs; whnf
  cases encodeElement f m.type ((lookupKey ks vs m.name).getD .null) ts with
  | ok b => cases encodeMembers f ms ks vs ts <;> rfl
  | _ => rfl

theorem hashArray_succ (f : Nat) (tn : String) (v : Ext) (ts : TypeSet) :
    hashArray (f + 1) tn ts v =
      match v with
      | .arr xs =>
        (Outcome.ofOption (arrayCut tn xs.length)).bind fun n =>
          (hashElems f (String.ofList (tn.toList.take n)) xs ts).bind fun b => .ok (keccak b)
      | _ => .err := by
  conv => lhs; whnf
  cases v with
  | arr va =>
    simp only [arrayCut]
    cases lastOpen tn.toList with
    | none => rfl
    | some openPos =>
      simp only []
      split
      · rfl
      · generalize (!_) = bad  -- the dimension test, the same term on both sides
        cases bad
        · simp only [Bool.false_eq_true, if_false, Outcome.ofOption, Outcome.ok_bind]
          cases hashElems f (String.ofList (tn.toList.take openPos)) va ts <;> rfl
        · rfl
  | _ =>
    cases lastOpen tn.toList with
    | none => rfl
    | some openPos => simp only []; split <;> rfl

theorem hashElems_nil (f : Nat) (t : String) (ts : TypeSet) : hashElems (f + 1) t [] ts = .ok [] :=
  rfl

theorem hashElems_cons (f : Nat) (t : String) (x : Ext) (xs : List Ext) (ts : TypeSet) :
    hashElems (f + 1) t (x :: xs) ts =
      (encodeElement f t x ts).bind fun b => (hashElems f t xs ts).bind fun rest => .ok (b ++ rest) := by
  conv => lhs; whnf
  cases encodeElement f t x ts with
  | ok b => cases hashElems f t xs ts <;> rfl
  | _ => rfl

theorem encodeType_ok {tn : String} {all : TypeSet} {r : List Member × String} (h : encodeType tn all = .ok r) :
    ∃ raw, tsLookup all tn = some (some raw) ∧ r.1 = raw.filterMap id := by
  unfold encodeType at h
  split at h
  · rename_i raw hl
    simp only [] at h
    split at h
    · split at h <;> cases h
    · injection h with h
      exact ⟨raw, hl, by rw [← h]⟩
  · cases h

theorem encodeTypedDataV4_eq (fuel : Nat) (p : TypedData) :
    encodeTypedDataV4 fuel p =
      if p.primaryType == "" then .err
      else (hashStruct fuel EIP712Domain (p.domain.getD (.obj [] [])) (effectiveTypes p)).bind fun dh =>
        if p.primaryType != EIP712Domain then
          (hashStruct fuel p.primaryType (p.message.getD .null) (effectiveTypes p)).bind fun sh =>
            .ok (keccak ([0x19, 0x01] ++ dh ++ sh))
        else .ok (keccak ([0x19, 0x01] ++ dh)) := by
  unfold encodeTypedDataV4 effectiveTypes
  simp only []
  split
  · rfl
  · cases hashStruct fuel EIP712Domain _ _ with
    | ok dh =>
      simp only [Outcome.ok_bind]
      split
      · cases hashStruct fuel p.primaryType _ _ <;> rfl
      · rfl
    | _ => rfl

end FFS.Lemmas.Eip712Step
