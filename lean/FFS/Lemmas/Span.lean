/-
  FFS.Lemmas.Span — `takeWhile p` / `dropWhile p` cut a list at its first element that fails `p`, and that cut is the
  only one: the parsers of the models cut their input this way, the specifications often another way.
-/
namespace FFS.Lemmas

theorem span_exists {α : Type} (p : α → Bool) (l : List α) :
    ∃ a b, l = a ++ b ∧ (∀ x ∈ a, p x = true) ∧ ∀ x ∈ b.head?, p x = false :=
  ⟨l.takeWhile p, l.dropWhile p, List.takeWhile_append_dropWhile.symm, fun _ hx => List.all_eq_true.1 List.all_takeWhile _ hx,
    fun x hx => by
      cases h : l.dropWhile p with
      | nil => rw [h] at hx; cases hx
      | cons y t =>
        have := List.head_dropWhile_not p (l := l) (by rw [h]; simp)
        simp only [h, List.head?_cons, Option.mem_def, Option.some.injEq, List.head_cons] at hx this
        rw [← hx]; simpa using this⟩

theorem span_eq {α : Type} {p : α → Bool} {a b : List α} (ha : ∀ x ∈ a, p x = true) (hb : ∀ x ∈ b.head?, p x = false) :
    (a ++ b).takeWhile p = a ∧ (a ++ b).dropWhile p = b := by
  rw [List.takeWhile_append_of_pos ha, List.dropWhile_append_of_pos ha]
  cases b with
  | nil => simp
  | cons x t => simp [hb x rfl]

end FFS.Lemmas
