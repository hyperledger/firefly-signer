/-
  FFS.Lemmas.Decimal — decimal numerals: Go's `strconv.FormatUint(v, 10)` / `big.Int.String` are `Nat.toDigits 10`, and
  the Horner fold that every decimal reader of the models performs inverts it, in both directions.
-/
namespace FFS.Lemmas.Decimal

theorem toString_toList (n : Nat) : (toString n).toList = Nat.toDigits 10 n := by
  rw [Nat.toString_eq_repr, Nat.toList_repr]

theorem isDigit_iff {c : Char} : ('0' ≤ c && c ≤ '9') = true ↔ 48 ≤ c.toNat ∧ c.toNat ≤ 57 := by
  simp only [Bool.and_eq_true, decide_eq_true_eq, Char.le_def, UInt32.le_iff_toNat_le]
  exact Iff.rfl

theorem digitChar_sub {c : Char} (h : 48 ≤ c.toNat ∧ c.toNat ≤ 57) : Nat.digitChar (c.toNat - 48) = c := by
  have : ∀ k : Fin 10, Nat.digitChar k.val = Char.ofNat (48 + k.val) := by decide
  rw [this ⟨c.toNat - 48, by omega⟩]
  show Char.ofNat (48 + (c.toNat - 48)) = c
  rw [show 48 + (c.toNat - 48) = c.toNat by omega, Char.ofNat_toNat]

/-- Horner's fold over decimal digits, from any positive accumulator, only appends the digits to its print -/
theorem toDigits_foldl : ∀ (s : List Char) (acc : Nat), 0 < acc → (∀ c ∈ s, 48 ≤ c.toNat ∧ c.toNat ≤ 57) →
    Nat.toDigits 10 (s.foldl (fun a c => a * 10 + (c.toNat - 48)) acc) = Nat.toDigits 10 acc ++ s
  | [], _, _, _ => by simp
  | c :: t, acc, ha, hs => by
    have hc := hs c (by simp)
    have hd : c.toNat - 48 < 10 := by omega
    have h1 : Nat.toDigits 10 (acc * 10 + (c.toNat - 48)) = Nat.toDigits 10 acc ++ [c] := by
      rw [Nat.mul_comm, ← Nat.toDigits_append_toDigits (by decide) ha hd, Nat.toDigits_of_lt_base hd, digitChar_sub hc]
    rw [List.foldl_cons, toDigits_foldl t _ (by omega) (fun x hx => hs x (by simp [hx])), h1, List.append_assoc]
    rfl

theorem foldl_toDigits (n : Nat) : (Nat.toDigits 10 n).foldl (fun a c => a * 10 + (c.toNat - 48)) 0 = n := by
  have := @Nat.ofDigitChars_ten_toDigits n
  simpa [Nat.ofDigitChars, Nat.mul_comm] using this

theorem toDigits_foldl_zero {c : Char} {t : List Char} (hs : ∀ x ∈ c :: t, 48 ≤ x.toNat ∧ x.toNat ≤ 57)
    (h0 : c ≠ '0' ∨ t = []) : Nat.toDigits 10 ((c :: t).foldl (fun a c => a * 10 + (c.toNat - 48)) 0) = c :: t := by
  have hc := hs c (by simp)
  have h1 : Nat.toDigits 10 (c.toNat - 48) = [c] := by
    rw [Nat.toDigits_of_lt_base (by omega), digitChar_sub hc]
  rw [List.foldl_cons, Nat.zero_mul, Nat.zero_add]
  rcases h0 with h0 | rfl
  · have : 0 < c.toNat - 48 := by
      have : c.toNat ≠ 48 := fun h => h0 (by rw [← Char.ofNat_toNat c, h])
      omega
    rw [toDigits_foldl t _ this (fun x hx => hs x (by simp [hx])), h1, List.singleton_append]
  · exact h1

theorem head_toDigits {b n : Nat} (hb : 1 < b) (hn : 0 < n) : (Nat.toDigits b n).head? ≠ some '0' := by
  induction n using Nat.base_induction b hb with
  | single m hm => simp [Nat.toDigits_of_lt_base hm]; omega
  | digit m k hk hm ih =>
    rw [← Nat.toDigits_append_toDigits hb hm hk, List.head?_append]
    cases h : Nat.toDigits b m with
    | nil => exact absurd h Nat.toDigits_ne_nil
    | cons x xs => rw [h] at ih; simpa using ih hm

theorem mem_toDigits {c : Char} {n : Nat} (h : c ∈ Nat.toDigits 10 n) : 48 ≤ c.toNat ∧ c.toNat ≤ 57 := by
  have := Nat.isDigit_of_mem_toDigits (by decide) (by decide) h
  simpa [Char.isDigit, UInt32.le_iff_toNat_le] using this

theorem mem_toDigits_base {b : Nat} (hb : 1 < b) (n : Nat) : ∀ c ∈ Nat.toDigits b n, ∃ d, d < b ∧ c = Nat.digitChar d := by
  induction n using Nat.base_induction b hb with
  | single m hm => intro c hc; rw [Nat.toDigits_of_lt_base hm, List.mem_singleton] at hc; exact ⟨m, hm, hc⟩
  | digit m d hd hm ih =>
    intro c hc
    rw [← Nat.toDigits_append_toDigits hb hm hd, Nat.toDigits_of_lt_base hd, List.mem_append, List.mem_singleton] at hc
    exact hc.elim (ih c) fun hc => ⟨d, hd, hc⟩

end FFS.Lemmas.Decimal
