/-
  What the ABI properties (C02 encode, C03 decode and JSON read-back) share: the arithmetic of a 32-byte word
  (`bitLen_le_iff`, `fillBytes_word`) and, about the specification side, the well-typed leaves classified once
  (`Leaf`, `leaf_of`), induction over well-typed (type, value) pairs (`wellTyped_induct`), the lengths and dynamic
  flags of the specification's item lists.
-/
import FFS.Spec.Abi
import FFS.Lemmas.Bytes

namespace FFS.Model.Abi

theorem bitLen_le_iff (n m : Nat) : bitLen n ≤ m ↔ n < 2 ^ m := by
  unfold bitLen
  split
  · rename_i h; subst h; simp [Nat.pow_pos]
  · rename_i hn; rw [← Nat.log2_lt hn]; omega

theorem toNat_lt_pow_iff {z : Int} (h0 : 0 ≤ z) (m : Nat) : z.toNat < 2 ^ m ↔ z < 2 ^ m := by
  have : ((2 ^ m : Nat) : Int) = (2 : Int) ^ m := by simp
  omega

theorem lt_pow256_32 {n m : Nat} (h : n < 2 ^ m) (hm : m ≤ 256) : n < 256 ^ 32 := by
  have := Nat.pow_le_pow_right (n := 2) (by decide) hm
  rw [pow256_32]
  omega

theorem fillBytes_word {n m : Nat} (h : n < 2 ^ m) (hm : m ≤ 256) : fillBytes? n 32 = .ok (toBE 32 n) :=
  fillBytes?_ok (lt_pow256_32 h hm)

end FFS.Model.Abi

namespace FFS.Spec.Abi
open FFS FFS.Model.Abi

/-- name, codec and width of an elementary type as `parseElementary` produces them from the type table
    (`c` is the table's encoder or decoder column) -/
def ElemRow (name suffix : String) (m : Nat) (c : Codec) : Prop :=
  (name = "int" ∧ c = .sint ∧ 8 ≤ m ∧ m ≤ 256 ∧ m % 8 = 0) ∨
  (name = "uint" ∧ c = .uint ∧ 8 ≤ m ∧ m ≤ 256 ∧ m % 8 = 0) ∨
  (name = "address" ∧ c = .uint ∧ m = 160) ∨
  (name = "bool" ∧ c = .uint ∧ m = 8) ∨
  (name = "bytes" ∧ c = .bytes ∧ ((suffix = "" ∧ m = 0) ∨ (suffix ≠ "" ∧ 1 ≤ m ∧ m ≤ 32))) ∨
  (name = "function" ∧ c = .bytes ∧ m = 24) ∨
  (name = "string" ∧ c = .string ∧ m = 0)

/-- `Leaf name c m v e d`: `v` is a well-typed value of the elementary type `name` of width `m` with codec `c`;
    its specification encoding is `e` and `d` says whether the type is dynamic. The five ways this can be. -/
inductive Leaf (name : String) (c : Codec) (m : Nat) : CV → Bytes → Bool → Prop
  | sint (z : Int) : name = "int" → c = .sint → 8 ≤ m → m ≤ 256 → m % 8 = 0 → -(2 : Int) ^ (m - 1) ≤ z → z < 2 ^ (m - 1) →
      Leaf name c m (.int z) (toBE 32 (z % 2 ^ 256).toNat) false
  | uint (z : Int) : name = "uint" ∨ (name = "address" ∧ m = 160) ∨ (name = "bool" ∧ (z = 0 ∨ z = 1)) → c = .uint →
      m ≤ 256 → m % 8 = 0 → 0 ≤ z → z < 2 ^ m → Leaf name c m (.int z) (toBE 32 z.toNat) false
  | fixed (b : Bytes) : name = "bytes" ∨ name = "function" → c = .bytes → 1 ≤ m → m ≤ 32 → b.length = m →
      Leaf name c m (.bytes b) (b ++ zeros (32 - m)) false
  | bytes (b : Bytes) : name = "bytes" → c = .bytes → m = 0 → Leaf name c m (.bytes b) (encUint b.length ++ padRight32 b) true
  | string (b : Bytes) : name = "string" → c = .string → m = 0 → Leaf name c m (.str b) (encUint b.length ++ padRight32 b) true

theorem padRight32_fixed (b : Bytes) (m : Nat) (hlen : b.length = m) (h1 : 1 ≤ m) (h32 : m ≤ 32) :
    padRight32 (b.take m) = b ++ zeros (32 - m) := by
  rw [padRight32, List.take_of_length_le (by omega), hlen]
  congr 2
  omega

/-- the one joint case analysis of the type table's rows against the value kinds (before `cases` on the result,
    `generalize` the encoding and the flag: indices of `Leaf`) -/
theorem leaf_of {info : ElemInfo} {sfx : String} {m n : Nat} {v : CV} {c : Codec} (hok : ElemRow info.name sfx m c)
    (hw : WellTyped (.elem info sfx m n) v = true) :
    Leaf info.name c m v (encElem info sfx m v) (isDynamic (.elem info sfx m n)) := by
  unfold WellTyped at hw
  unfold encElem isDynamic
  rcases hok with ⟨hn, hc, h8, h256, hmod⟩ | ⟨hn, hc, h8, h256, hmod⟩ | ⟨hn, hc, hm⟩ | ⟨hn, hc, hm⟩ |
    ⟨hn, hc, hm⟩ | ⟨hn, hc, hm⟩ | ⟨hn, hc, hm⟩ <;> cases v <;> simp [hn] at hw ⊢
  · exact .sint _ rfl hc h8 h256 hmod hw.1.1 hw.1.2
  · exact .uint _ (.inl rfl) hc h256 hmod hw.1 hw.2
  · subst hm; exact .uint _ (.inr (.inl ⟨rfl, rfl⟩)) hc (by omega) (by omega) hw.1 hw.2
  · subst hm; exact .uint _ (.inr (.inr ⟨rfl, hw⟩)) hc (by omega) (by omega) (by omega) (by omega)
  · rcases hm with ⟨hs, hm⟩ | ⟨hs, h1, h32⟩
    · simp [hs]; exact .bytes _ rfl hc hm
    · simp [hs] at hw ⊢; rw [padRight32_fixed _ _ hw h1 h32, beq_eq_false_iff_ne.mpr hs]; exact .fixed _ (.inl rfl) hc h1 h32 hw
  · subst hm; rw [padRight32_fixed _ _ hw (by omega) (by omega)]; exact .fixed _ (.inr rfl) hc (by omega) (by omega) hw
  · exact .string _ rfl hc hm

theorem encSame_length (t : Ty) : ∀ cs, (encSame t cs).length = cs.length
  | [] => rfl
  | c :: cs => by simp [encSame, encSame_length t cs]

theorem encSame_any (t : Ty) : ∀ cs, (encSame t cs).any (·.1) = (cs.length != 0 && isDynamic t)
  | [] => rfl
  | c :: cs => by cases h : isDynamic t <;> simp [encSame, List.any_cons, encSame_any t cs, h]

theorem encEach_any : ∀ (ts : List Ty) (cs : List CV), wellTypedEach ts cs = true →
    (encEach ts cs).any (·.1) = anyDyn ts
  | [], [], _ => rfl
  | t :: ts, c :: cs, h => by
    rw [wellTypedEach, Bool.and_eq_true] at h
    simp only [encEach, List.any_cons, anyDyn, encEach_any ts cs h.2]
  | [], _ :: _, h => by cases h
  | _ :: _, [], h => by cases h

theorem assembleGo_heads_length (hl : Nat) : ∀ (items : List (Bool × Bytes)) (tb : Nat),
    (assembleGo hl items tb).1.length = headsLen items
  | [], _ => rfl
  | (true, e) :: r, tb => by simp [assembleGo, headsLen, encUint, assembleGo_heads_length hl r]
  | (false, e) :: r, tb => by simp [assembleGo, headsLen, assembleGo_heads_length hl r]

theorem encSame_flags (t : Ty) : ∀ cs, ∀ i ∈ encSame t cs, i.1 = isDynamic t
  | [], i, hi => nomatch hi
  | c :: cs, i, hi => by
    rw [encSame] at hi
    rcases List.mem_cons.mp hi with rfl | hi
    · rfl
    · exact encSame_flags t cs i hi

theorem encEach_flags : ∀ (ts : List Ty) (cs : List CV), anyDyn ts = false → ∀ i ∈ encEach ts cs, i.1 = false
  | [], _, _, i, hi => by simp [encEach] at hi
  | _ :: _, [], _, i, hi => by simp [encEach] at hi
  | t :: ts, c :: cs, h, i, hi => by
    rw [anyDyn, Bool.or_eq_false_iff] at h
    rw [encEach] at hi
    rcases List.mem_cons.mp hi with rfl | hi
    · exact h.1
    · exact encEach_flags ts cs h.2 i hi

theorem wellTypedEach_length : ∀ (ts : List Ty) (cs : List CV), wellTypedEach ts cs = true → cs.length = ts.length
  | [], [], _ => rfl
  | [], _ :: _, h | _ :: _, [], h => nomatch h
  | t :: ts, c :: cs, h => by
    rw [wellTypedEach, Bool.and_eq_true] at h
    rw [List.length_cons, List.length_cons, wellTypedEach_length ts cs h.2]

/-- induction over the well-typed (type, value) pairs: the shape every statement about whole value trees has -/
theorem wellTyped_induct {P : Ty → CV → Prop} {Pe : List Ty → List CV → Prop} {Ps : Ty → List CV → Prop}
    (elem : ∀ info sfx m n v, WellTyped (.elem info sfx m n) v = true → P (.elem info sfx m n) v)
    (farr : ∀ t cs, wellTypedSame t cs = true → Ps t cs → P (.farr t cs.length) (.kids cs))
    (darr : ∀ t cs, wellTypedSame t cs = true → Ps t cs → P (.darr t) (.kids cs))
    (tuple : ∀ ns ts cs, wellTypedEach ts cs = true → Pe ts cs → P (.tuple ns ts) (.kids cs))
    (enil : Pe [] [])
    (econs : ∀ t ts c cs, WellTyped t c = true → wellTypedEach ts cs = true → P t c → Pe ts cs → Pe (t :: ts) (c :: cs))
    (snil : ∀ t, Ps t [])
    (scons : ∀ t c cs, WellTyped t c = true → wellTypedSame t cs = true → P t c → Ps t cs → Ps t (c :: cs)) :
    (∀ t v, WellTyped t v = true → P t v) ∧ (∀ ts cs, wellTypedEach ts cs = true → Pe ts cs) ∧
      (∀ t cs, wellTypedSame t cs = true → Ps t cs) := by
  apply enc.mutual_induct (fun t v => WellTyped t v = true → P t v) (fun ts cs => wellTypedEach ts cs = true → Pe ts cs)
    (fun t cs => wellTypedSame t cs = true → Ps t cs)
  · exact fun info sfx m n v => elem info sfx m n v
  · intro t k cs ih hw
    rw [WellTyped, Bool.and_eq_true, beq_iff_eq] at hw
    exact hw.1 ▸ farr t cs hw.2 (ih hw.2)
  · intro t cs ih hw
    rw [WellTyped] at hw
    exact darr t cs hw (ih hw)
  · intro ns ts cs ih hw
    rw [WellTyped] at hw
    exact tuple ns ts cs hw (ih hw)
  · intro v t h1 h2 h3 h4 hw
    -- type and value of different shapes: the last equation of `WellTyped`, `false`
    rw [WellTyped.eq_8 t v h1 h2 h3 h4] at hw
    cases hw
  · intro t ts c cs ih ihs hw
    rw [wellTypedEach, Bool.and_eq_true] at hw
    exact econs t ts c cs hw.1 hw.2 (ih hw.1) (ihs hw.2)
  · intro cs ts h hw
    cases ts <;> cases cs
    · exact enil
    · cases hw
    · cases hw
    · exact (h _ _ _ _ rfl rfl).elim
  · exact fun t _ => snil t
  · intro t c cs ih ihs hw
    rw [wellTypedSame, Bool.and_eq_true] at hw
    exact scons t c cs hw.1 hw.2 (ih hw.1) (ihs hw.2)

end FFS.Spec.Abi
