/-
  FFS.Lemmas.Eip712Closure — the dependency closure `addNestedTypes` of FFS.Model.Eip712 and what the encoders see of
  the type set:
  * the fuel the model gives the closure (`allTypes.length + 2`) is sufficient: from that amount on, more fuel never
    changes the result (`stable`, `closure_fuel`) — the Go recursion has no fuel, so this removes a modelling artefact;
  * the closure, `encodeType` and all six mutually recursive encoders depend on the type set only through the lookups
    they make (`encoders_congr`); in particular they do not see a definition whose name is not (a prefix of) any name
    the walk can look up (`encoders_unref`).
-/
import FFS.Lemmas.Eip712Step
import FFS.Lemmas.Assoc
namespace FFS.Lemmas.Eip712Closure
open FFS FFS.Model.Abi FFS.Model.Eip712 FFS.Lemmas.Eip712Step

/-- the "already visited" test of `addNestedTypes` -/
def visited (vis : TypeSet) (k : String) : Bool :=
  match tsLookup vis k with
  | some (some _) => true
  | _ => false

/-- the fold `addNestedTypes` runs over the members of a definition -/
def foldF (f : Nat) (all : TypeSet) : TypeSet → Option Member → TypeSet :=
  fun acc m => match m with
    | none => acc
    | some mem => addNestedTypes f mem.type all acc

theorem foldF_eq (f : Nat) (all : TypeSet) :
    (fun (acc : TypeSet) (m : Option Member) => match m with
      | none => if Gen.Eip712Facts.nilMemberGuard then acc else acc
      | some mem => addNestedTypes f mem.type all acc) = foldF f all := by
  funext acc m
  cases m <;> simp [foldF]

theorem addNested_succ (f : Nat) (tn : String) (all vis : TypeSet) :
    addNestedTypes (f + 1) tn all vis =
      match tsLookup all (baseName tn) with
      | none => vis
      | some t =>
        if visited vis (baseName tn) then vis
        else match t with
          | none => tsInsert vis (baseName tn) none
          | some ms => ms.foldl (foldF f all) (tsInsert vis (baseName tn) (some ms)) := by
  rw [addNestedTypes]
  cases tsLookup all (baseName tn) with
  | none => rfl
  | some t =>
    cases t with
    | none => rfl
    | some ms =>
      simp only [visited]
      congr  -- the fold steps are equal by computation: `if nilMemberGuard then acc else acc` is `acc`

theorem tsLookup_cons (k : String) (t : TypeDef) (r : TypeSet) (n : String) :
    tsLookup ((k, t) :: r) n = if k = n then some t else tsLookup r n :=
  Assoc.lookup_cons r k n t

theorem tsLookup_insert (vis : TypeSet) (n : String) (t : TypeDef) (k : String) :
    tsLookup (tsInsert vis n t) k = if n = k then some t else tsLookup vis k :=
  Assoc.lookup_set vis n k t

theorem lookup_mem {all : TypeSet} {n : String} {t : TypeDef} (h : tsLookup all n = some t) : (n, t) ∈ all := by
  obtain ⟨e, he, rfl⟩ := Option.map_eq_some_iff.mp h
  obtain ⟨rfl, hm⟩ := Assoc.of_find? he
  exact hm

theorem visited_insert (vis : TypeSet) (n : String) (t : TypeDef) (k : String) :
    visited (tsInsert vis n t) k = if n = k then t.isSome else visited vis k := by
  rw [visited, tsLookup_insert]
  by_cases h : n = k
  · rw [if_pos h, if_pos h]; cases t <;> rfl
  · rw [if_neg h, if_neg h]; rfl

/-- an insertion made by `addNestedTypes` (the name was not yet visited) keeps every visited name visited -/
theorem visited_insert_mono {vis : TypeSet} {n : String} (t : TypeDef) (hv : visited vis n = false) {k : String}
    (hk : visited vis k = true) : visited (tsInsert vis n t) k = true := by
  rw [visited_insert]
  split
  · rename_i e; rw [e, hk] at hv; cases hv
  · exact hk

/-- two folds agree if their steps agree on every state an invariant allows -/
theorem foldl_congr {α β : Type} {g g' : β → α → β} {I : β → Prop} : ∀ (l : List α) (b : β), I b →
    (∀ b, I b → ∀ a ∈ l, g b a = g' b a ∧ I (g' b a)) → l.foldl g b = l.foldl g' b
  | [], _, _, _ => rfl
  | a :: l, b, hb, h => by
    rw [List.foldl_cons, List.foldl_cons, (h b hb a (by simp)).1]
    exact foldl_congr l _ (h b hb a (by simp)).2 fun b hb a ha => h b hb a (by simp [ha])

theorem visited_mono (all : TypeSet) : ∀ (f : Nat) (tn : String) (vis : TypeSet) (k : String),
    visited vis k = true → visited (addNestedTypes f tn all vis) k = true := by
  intro f
  induction f with
  | zero => exact fun _ _ _ hk => hk
  | succ f ih =>
    intro tn vis k hk
    rw [addNested_succ]
    cases tsLookup all (baseName tn) with
    | none => exact hk
    | some t =>
      cases hv : visited vis (baseName tn) with
      | true => exact hk
      | false =>
        have := visited_insert_mono t hv hk
        cases t with
        | none => exact this
        | some ms =>
          refine List.foldlRecOn ms _ (motive := fun acc => visited acc k = true) this fun acc hacc m _ => ?_
          cases m with
          | none => exact hacc
          | some mem => exact ih mem.type acc k hacc

-- the measure by which the closure's fuel suffices: the definitions of `all` not yet visited
def unv (all vis : TypeSet) : Nat := (all.filter (fun e => !visited vis e.1)).length

theorem unv_mono {vis vis' : TypeSet} (all : TypeSet) (h : ∀ k, visited vis k = true → visited vis' k = true) :
    unv all vis' ≤ unv all vis := by
  simp only [unv, ← List.countP_eq_length_filter]
  refine List.countP_mono_left fun a _ ha => ?_
  cases hv : visited vis a.1 with
  | true => rw [h a.1 hv] at ha; cases ha
  | false => rfl

theorem unv_insert_lt {all vis : TypeSet} {n : String} {t : TypeDef} (ms : List (Option Member))
    (hl : tsLookup all n = some t) (hv : visited vis n = false) : unv all (tsInsert vis n (some ms)) < unv all vis := by
  -- what is unvisited after the insertion was unvisited before, and `(n, t)` no longer is
  have hsub : (all.filter fun e => !visited (tsInsert vis n (some ms)) e.1) =
      (all.filter fun e => !visited vis e.1).filter fun e => !visited (tsInsert vis n (some ms)) e.1 := by
    rw [List.filter_filter]
    refine List.filter_congr fun a _ => ?_
    cases hva : visited vis a.1 with
    | true => simp [visited_insert_mono (some ms) hv hva]
    | false => simp
  rw [unv, hsub]
  exact List.length_filter_lt_length_iff_exists.mpr
    ⟨(n, t), List.mem_filter.mpr ⟨lookup_mem hl, by simp [hv]⟩, by simp [visited_insert]⟩

theorem unv_le_length (all vis : TypeSet) : unv all vis ≤ all.length := List.length_filter_le _ _

/-- **Fuel sufficiency, one step**: with more fuel than definitions still unvisited, one more unit changes nothing. -/
theorem stable (all : TypeSet) : ∀ (f : Nat) (tn : String) (vis : TypeSet), unv all vis < f →
    addNestedTypes (f + 1) tn all vis = addNestedTypes f tn all vis := by
  intro f
  induction f with
  | zero => exact fun _ _ h => absurd h (Nat.not_lt_zero _)
  | succ g ih =>
    intro tn vis h
    rw [addNested_succ, addNested_succ g]
    cases hl : tsLookup all (baseName tn) with
    | none => rfl
    | some t =>
      cases hv : visited vis (baseName tn) with
      | true => rfl
      | false =>
        cases t with
        | none => rfl
        | some ms =>
          have := unv_insert_lt ms hl hv
          refine foldl_congr (I := fun acc => unv all acc < g) ms _ (by omega) fun acc hacc m _ => ?_
          cases m with
          | none => exact ⟨rfl, hacc⟩
          | some mem =>
            exact ⟨ih mem.type acc hacc, Nat.lt_of_le_of_lt (unv_mono all (visited_mono all g mem.type acc)) hacc⟩

theorem closure_fuel (all : TypeSet) (tn : String) (j : Nat) :
    addNestedTypes (all.length + 2 + j) tn all [] = addNestedTypes (all.length + 2) tn all [] :=
  fuel_stable (addNestedTypes · tn all []) _ (fun n hn _ => stable all n tn [] (by have := unv_le_length all []; omega)) j

/-- `A` and `B` answer alike every lookup that can be reached from a name in `P`: `P` contains the prefixes of its
    names (base names, element types of arrays) and the member types of the definitions found under its names -/
structure Agree (P : String → Prop) (A B : TypeSet) : Prop where
  pre : ∀ {s t : String}, P t → s.toList <+: t.toList → P s
  lookup : ∀ {n : String}, P n → tsLookup A n = tsLookup B n
  member : ∀ {n : String} {ms : List (Option Member)} {mem : Member},
    P n → tsLookup B n = some (some ms) → some mem ∈ ms → P mem.type

theorem Agree.base {P : String → Prop} {A B : TypeSet} (h : Agree P A B) {tn : String} (hp : P tn) : P (baseName tn) :=
  h.pre hp (by simp only [baseName, String.toList_ofList]; exact List.takeWhile_prefix _)

theorem agree_all {A B : TypeSet} (h : ∀ n, tsLookup A n = tsLookup B n) : Agree (fun _ => True) A B :=
  ⟨fun _ _ => trivial, fun _ => h _, fun _ _ _ => trivial⟩

theorem addNested_congr {P : String → Prop} {A B : TypeSet} (h : Agree P A B) : ∀ (f : Nat) (tn : String) (vis : TypeSet),
    P tn → addNestedTypes f tn A vis = addNestedTypes f tn B vis := by
  intro f
  induction f with
  | zero => exact fun _ _ _ => rfl
  | succ f ih =>
    intro tn vis hp
    rw [addNested_succ, addNested_succ, h.lookup (h.base hp)]
    cases hl : tsLookup B (baseName tn) with
    | none => rfl
    | some t =>
      cases t with
      | none => rfl
      | some ms =>
        cases visited vis (baseName tn) with
        | true => rfl
        | false =>
          refine foldl_congr (I := fun _ => True) ms _ trivial fun acc _ m hm => ⟨?_, trivial⟩
          cases m with
          | none => rfl
          | some mem => exact ih mem.type acc (h.member (h.base hp) hl hm)

theorem encodeType_congr {P : String → Prop} {A B : TypeSet} (h : Agree P A B) {tn : String} (hp : P tn) :
    encodeType tn A = encodeType tn B := by
  -- each side runs its closure on its own `length + 2` units of fuel: raise both to the same amount
  have e : A.length + 2 + B.length = B.length + 2 + A.length := by omega
  unfold encodeType
  rw [h.lookup hp, ← closure_fuel A tn B.length, ← closure_fuel B tn A.length, e, addNested_congr h _ tn [] hp]

theorem encoders_congr {P : String → Prop} {A B : TypeSet} (h : Agree P A B) : ∀ fuel : Nat,
    (∀ tn v, P tn → encodeElement fuel tn v A = encodeElement fuel tn v B) ∧
    (∀ tn v, P tn → hashStruct fuel tn v A = hashStruct fuel tn v B) ∧
    (∀ tn v, P tn → Model.Eip712.encodeData fuel tn v A = Model.Eip712.encodeData fuel tn v B) ∧
    (∀ ms ks vs, (∀ m ∈ ms, P m.type) → encodeMembers fuel ms ks vs A = encodeMembers fuel ms ks vs B) ∧
    (∀ tn v, P tn → hashArray fuel tn A v = hashArray fuel tn B v) ∧
    (∀ t xs, P t → hashElems fuel t xs A = hashElems fuel t xs B)
  | 0 => ⟨fun _ _ _ => rfl, fun _ _ _ => rfl, fun _ _ _ => rfl, fun _ _ _ _ => rfl, fun _ _ _ => rfl, fun _ _ _ => rfl⟩
  | f + 1 => by
    obtain ⟨iE, iS, iD, iM, iA, iH⟩ := encoders_congr h f
    refine ⟨fun tn v hp => ?_, fun tn v hp => ?_, fun tn v hp => ?_, fun ms ks vs hp => ?_, fun tn v hp => ?_,
      fun t xs hp => ?_⟩
    · rw [encodeElement_succ, encodeElement_succ, iA tn v hp, iS tn v hp, h.lookup hp]
    · rw [hashStruct_succ, hashStruct_succ, iD tn v hp]
    · rw [encodeData_succ, encodeData_succ]
      refine Outcome.bind_congr (encodeType_congr h hp) fun r hr => ?_
      obtain ⟨raw, hl, hms⟩ := encodeType_ok hr
      cases v with
      | obj ks vs =>
        refine Outcome.bind_congr (iM r.1 ks vs fun m hm => ?_) fun _ _ => rfl
        rw [hms] at hm
        obtain ⟨o, ho, rfl⟩ := List.mem_filterMap.mp hm
        exact h.member hp hl ho
      | _ => rfl
    · cases ms with
      | nil => rfl
      | cons m ms =>
        rw [encodeMembers_cons, encodeMembers_cons, iE _ _ (hp m (by simp)), iM ms ks vs fun m' hm' => hp m' (by simp [hm'])]
    · rw [hashArray_succ, hashArray_succ]
      cases v with
      | arr xs =>
        exact Outcome.bind_congr rfl fun n _ =>
          Outcome.bind_congr (iH _ xs (h.pre hp (by simp only [String.toList_ofList]; exact List.take_prefix _ _))) fun _ _ => rfl
      | _ => rfl
    · cases xs with
      | nil => rfl
      | cons x xs => rw [hashElems_cons, hashElems_cons, iE t x hp, iH t xs hp]

/-- `u` is not a prefix of `x`: then `x`, its base name and every array-trimmed form of `x` differ from `u` -/
def Good (u x : String) : Prop := ¬ (u.toList <+: x.toList)

instance (u x : String) : Decidable (Good u x) := by unfold Good; infer_instance

/-- no member of any definition in `all` has a type that `u` is a prefix of -/
def Unref (u : String) (all : TypeSet) : Prop :=
  ∀ e ∈ all, ∀ raw, e.2 = some raw → ∀ mem, some mem ∈ raw → Good u mem.type

theorem tsLookup_cons_good {u : String} (d : TypeDef) (all : TypeSet) {n : String} (hn : Good u n) :
    tsLookup ((u, d) :: all) n = tsLookup all n := by
  rw [tsLookup_cons, if_neg]
  rintro rfl
  exact hn List.prefix_rfl

theorem agree_good {u : String} {A B : TypeSet} (hl : ∀ n, Good u n → tsLookup A n = tsLookup B n) (hU : Unref u B) :
    Agree (Good u) A B where
  pre ht hs := fun hu => ht (hu.trans hs)
  lookup hn := hl _ hn
  member _ hl hm := hU _ (lookup_mem hl) _ rfl _ hm

theorem encoders_unref (u : String) (d : TypeDef) (all : TypeSet) (hU : Unref u all) : ∀ fuel : Nat,
    (∀ tn v, Good u tn → encodeElement fuel tn v ((u, d) :: all) = encodeElement fuel tn v all) ∧
    (∀ tn v, Good u tn → hashStruct fuel tn v ((u, d) :: all) = hashStruct fuel tn v all) ∧
    (∀ tn v, Good u tn → Model.Eip712.encodeData fuel tn v ((u, d) :: all) = Model.Eip712.encodeData fuel tn v all) ∧
    (∀ ms ks vs, (∀ m ∈ ms, Good u m.type) → encodeMembers fuel ms ks vs ((u, d) :: all) = encodeMembers fuel ms ks vs all) ∧
    (∀ tn v, Good u tn → hashArray fuel tn ((u, d) :: all) v = hashArray fuel tn all v) ∧
    (∀ t xs, Good u t → hashElems fuel t xs ((u, d) :: all) = hashElems fuel t xs all) :=
  encoders_congr (agree_good (fun _ => tsLookup_cons_good d all) hU)

end FFS.Lemmas.Eip712Closure
