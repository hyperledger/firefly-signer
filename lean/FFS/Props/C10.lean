/-
  Property C10 — recovering a signer from arbitrary raw transaction bytes is total and sound.
  Model: FFS.Model.Tx (mirrors pkg/ethsigner/transaction.go after the fix: commit that added shape validation),
  over Model.Rlp (C06) and Model.Secp (C05). Curve library is a parameter.
  `recoverLegacy_sat` and `decode1559_sat` say that each function does not panic and that whatever it returns, the
  input has the validated shape and the answer is a closed form of it; totality and soundness are their two halves.
  `recoverLegacy_of_list` and `decode1559_of_list` are the same closed forms for an input known to have that shape
  (used by C01).
-/
import FFS.Lemmas.Tx
import FFS.Props.C05
import FFS.Props.C06
namespace FFS.Props.C10
open FFS FFS.Model.Tx FFS.Model.Rlp FFS.Model.Secp FFS.Gen.TxConsts

/-- The regenerated facts say the shape validation and the exact chain-id comparison are present. -/
theorem validation_present :
    legacyValidates = true ∧ e1559Validates = true ∧ e1559ChainIdExact = true := by decide

theorem validTxScalars_ne_panic_of_lt {l : List Item} {ints bytesF : List Nat} {to : Nat}
    (h : ∀ i ∈ ints ++ bytesF ++ [to], i < l.length) : validTxScalars l ints to bytesF ≠ .panic := by
  unfold validTxScalars
  split
  · rename_i hany
    simp only [List.any_eq_true, decide_eq_true_eq] at hany
    obtain ⟨i, hi, hle⟩ := hany
    have := h i hi
    omega
  · simp

theorem validTxScalars_ok {l : List Item} {ints bytesF : List Nat} {to : Nat}
    (h : validTxScalars l ints to bytesF = .ok true) :
    (∀ i ∈ ints, isCanonInt (l.getD i (.list [])) = true) ∧ (∀ i ∈ bytesF, isStr (l.getD i (.list [])) = true) ∧
      isAddrOrEmpty (l.getD to (.list [])) = true := by
  unfold validTxScalars at h
  split at h
  · cases h
  · injection h with h
    simp only [Bool.and_eq_true, List.all_eq_true] at h
    exact ⟨h.1.1, h.1.2, h.2⟩

theorem recoverCommon_ne_panic {C : Curve} {tx : Tx} {m : Bytes} {cid v : Int} {r s : Bytes} :
    recoverCommon C tx m cid v r s ≠ .panic := by
  rw [recoverCommon_eq]
  exact Outcome.bind_ne_panic (C05.recover_total C _ _ cid) fun _ _ => by simp

/-- the transaction `RecoverLegacyRawTransaction` builds from a decoded list -/
def legacyTxOf (l : List Item) : Tx :=
  { nonce := itemInt (l.getD 0 (.list [])), gasPrice := itemInt (l.getD 1 (.list [])), gasLimit := itemInt (l.getD 2 (.list [])),
    to := itemAddr (l.getD 3 (.list [])), value := itemInt (l.getD 4 (.list [])), data := itemBytes (l.getD 5 (.list [])),
    tip := none, feeCap := none }

/-- what `RecoverLegacyRawTransaction` does with a validated list whose V item reads `vBig` -/
def legacyTail (C : Curve) (l : List Item) (cid : Int) (vBig : Nat) : Outcome (Bytes × Tx × Bytes) :=
  if vNotLegacy (bigInt64 vBig) then
    if vNotLegacy (wrap64 (v155ToLegacy (bigInt64 vBig) cid)) then .err
    else recoverCommon C (legacyTxOf l) (enc (.list (addEIP155 (l.take 6) cid))) cid
      (wrap64 (v155ToLegacy (bigInt64 vBig) cid)) (itemBytes (l.getD 7 (.list []))) (itemBytes (l.getD 8 (.list [])))
  else recoverCommon C (legacyTxOf l) (enc (.list (l.take 6))) cid (bigInt64 vBig)
    (itemBytes (l.getD 7 (.list []))) (itemBytes (l.getD 8 (.list [])))

theorem legacyTail_ne_panic (C : Curve) (l : List Item) (cid : Int) (vBig : Nat) :
    legacyTail C l cid vBig ≠ .panic :=
  Outcome.ite_ne_panic (Outcome.ite_ne_panic (by simp) recoverCommon_ne_panic) recoverCommon_ne_panic

/-- `RecoverLegacyRawTransaction` does not panic, and whatever it returns is `legacyTail` of the validated list of at
    least nine items that the input decodes to. -/
theorem recoverLegacy_sat (C : Curve) (raw : Bytes) (cid : Int) :
    (recoverLegacy C raw cid).Sat fun r =>
      ∃ (l : List Item) (pos vBig : Nat), Decode raw = .ok (some (.list l), pos) ∧ 9 ≤ l.length ∧
        validateLegacy l = .ok true ∧ itemInt (l.getD 6 (.list [])) = some vBig ∧ legacyTail C l cid vBig = .ok r := by
  unfold recoverLegacy
  cases hd : Decode raw with
  | err => exact Outcome.sat_err
  | panic => exact absurd hd (C06.decode_total raw)
  | ok p =>
    obtain ⟨decoded, pos⟩ := p
    cases decoded with
    | none => exact Outcome.sat_err
    | some it =>
      cases it with
      | str bb => exact Outcome.sat_err
      | list l =>
        refine Outcome.sat_ite_err fun hshort => ?_
        have hlen : 9 ≤ l.length := by
          simp only [legacyTooShort, Bool.false_or, decide_eq_true_eq] at hshort; omega
        have hnp : validateLegacy l ≠ .panic := by
          simp only [validateLegacy, validation_present.1, if_true]
          exact validTxScalars_ne_panic_of_lt fun i hi =>
            Nat.lt_of_lt_of_le ((by decide : ∀ i ∈ legacyInts ++ legacyBytes ++ [legacyTo], i < 9) i hi) hlen
        cases hval : validateLegacy l with
        | err => exact Outcome.sat_err
        | panic => exact absurd hval hnp
        | ok bv =>
          cases bv with
          | false => exact Outcome.sat_err
          | true =>
            have hv6 := hval
            simp only [validateLegacy, validation_present.1, if_true] at hv6
            have hn := itemInt_of_canon ((validTxScalars_ok hv6).1 6 (by decide))
            simp only []
            rw [hn]
            exact ⟨legacyTail_ne_panic C l cid _, fun r e => ⟨l, pos, _, rfl, hlen, hval, hn, e⟩⟩

/-- the same read forwards, as the signing side needs it -/
theorem recoverLegacy_of_list {C : Curve} {raw : Bytes} {cid : Int} {l : List Item} {pos vBig : Nat}
    (hd : Decode raw = .ok (some (.list l), pos)) (hlen : 9 ≤ l.length) (hval : validateLegacy l = .ok true)
    (hv : itemInt (l.getD 6 (.list [])) = some vBig) : recoverLegacy C raw cid = legacyTail C l cid vBig := by
  have hs : legacyTooShort l.length = false := by simp [legacyTooShort]; omega
  simp only [recoverLegacy, hd, hs, hval, hv, Bool.false_eq_true, if_false]
  rfl

/-- `RecoverLegacyRawTransaction` never panics. -/
theorem recoverLegacy_total (C : Curve) (raw : Bytes) (cid : Int) : recoverLegacy C raw cid ≠ .panic :=
  (recoverLegacy_sat C raw cid).1

/-- the transaction `decodeEIP1559SignaturePayload` builds from a decoded list -/
def tx1559Of (l : List Item) : Tx :=
  { nonce := itemInt (l.getD 1 (.list [])), tip := itemInt (l.getD 2 (.list [])), feeCap := itemInt (l.getD 3 (.list [])),
    gasLimit := itemInt (l.getD 4 (.list [])), to := itemAddr (l.getD 5 (.list [])), value := itemInt (l.getD 6 (.list [])),
    data := itemBytes (l.getD 7 (.list [])), gasPrice := none }

/-- `decodeEIP1559SignaturePayload` does not panic, and what it accepts is a type-0x02 envelope of a list that is long
    enough, carries the supplied chain id and passes the shape validation; the transaction is read off that list. -/
theorem decode1559_sat (raw : Bytes) (cid : Int) (minLen : Nat) (hmin : minLen = 9 ∨ minLen = 12) :
    (decode1559 raw cid minLen).Sat fun r => (∃ rest, raw = UInt8.ofNat type1559 :: rest) ∧ minLen ≤ r.1.length ∧
      chainIdMatches r.1 cid = true ∧ validate1559 r.1 minLen = .ok true ∧ r.2 = tx1559Of r.1 := by
  unfold decode1559
  cases raw with
  | nil => exact Outcome.sat_err
  | cons b0 rest =>
    refine Outcome.sat_ite_err fun hb0 => ?_
    have hb : b0 = UInt8.ofNat type1559 := UInt8.toNat_inj.mp (by rw [Decidable.not_not.mp hb0]; decide)
    cases hd : Decode rest with
    | err => exact Outcome.sat_err
    | panic => exact absurd hd (C06.decode_total rest)
    | ok p =>
      obtain ⟨decoded, pos⟩ := p
      cases decoded with
      | none => exact Outcome.sat_err
      | some it =>
        cases it with
        | str bb => exact Outcome.sat_err
        | list l =>
          refine Outcome.sat_ite_err fun hlen => Outcome.sat_ite_err fun hchain => ?_
          -- every index the validation looks at is below the length it was told to expect
          have hidx : ∀ i ∈ (if minLen ≥ 12 then e1559Ints ++ e1559IntsSigned else e1559Ints) ++
              (if minLen ≥ 12 then e1559Bytes ++ e1559BytesSigned else e1559Bytes) ++ [e1559To], i < minLen := by
            rcases hmin with rfl | rfl <;> decide
          have hnp : validate1559 l minLen ≠ .panic := by
            simp only [validate1559, validation_present.2.1, if_true]
            exact validTxScalars_ne_panic_of_lt fun i hi => by have := hidx i hi; omega
          cases hval : validate1559 l minLen with
          | err => exact Outcome.sat_err
          | panic => exact absurd hval hnp
          | ok bv =>
            cases bv with
            | false => exact Outcome.sat_err
            | true => exact Outcome.sat_ok ⟨⟨rest, by rw [hb]⟩, Nat.le_of_not_lt hlen, by simpa using hchain, hval, rfl⟩

theorem decode1559_of_list {rest : Bytes} {cid : Int} {minLen pos : Nat} {l : List Item}
    (hd : Decode rest = .ok (some (.list l), pos)) (hlen : minLen ≤ l.length) (hc : chainIdMatches l cid = true)
    (hval : validate1559 l minLen = .ok true) :
    decode1559 (UInt8.ofNat type1559 :: rest) cid minLen = .ok (l, tx1559Of l) := by
  have hb0 : ¬ ((UInt8.ofNat type1559).toNat ≠ type1559) := by decide
  simp only [decode1559, if_neg hb0, hd, if_neg (Nat.not_lt.2 hlen), hc, hval]
  rfl

theorem decode1559_total (raw : Bytes) (cid : Int) (minLen : Nat) (hmin : minLen = 9 ∨ minLen = 12) :
    decode1559 raw cid minLen ≠ .panic := (decode1559_sat raw cid minLen hmin).1

/-- `RecoverEIP1559Transaction` never panics. -/
theorem recover1559_total (C : Curve) (raw : Bytes) (cid : Int) : recover1559 C raw cid ≠ .panic := by
  unfold recover1559
  cases hd : decode1559 raw cid min1559Signed with
  | err => simp
  | panic => exact absurd hd (decode1559_total raw cid _ (Or.inr rfl))
  | ok p =>
    obtain ⟨_, _, _, hv, _⟩ := (decode1559_sat raw cid _ (Or.inr rfl)).2 p hd
    -- element 9 was validated as a canonical integer
    simp only [validate1559, validation_present.2.1, if_true] at hv
    obtain ⟨n, hn⟩ : ∃ n, itemInt (p.1.getD 9 (.list [])) = some n :=
      ⟨_, itemInt_of_canon ((validTxScalars_ok hv).1 9 (by decide))⟩
    simp only [hn]
    exact recoverCommon_ne_panic

/-- **Totality.** `RecoverRawTransaction` never panics, for any bytes and chain id. -/
theorem recover_total (C : Curve) (raw : Bytes) (cid : Int) : recoverRaw C raw cid ≠ .panic := by
  cases raw with
  | nil => simp [recoverRaw]
  | cons b0 rest =>
    exact Outcome.ite_ne_panic (recoverLegacy_total C _ cid)
      (Outcome.ite_ne_panic (recover1559_total C _ cid) (by simp))

/-- the first `n` items, by index: lets a statement about `take` be checked against per-index facts -/
theorem take_eq_getD {α : Type} (d : α) (l : List α) : ∀ n, n ≤ l.length → l.take n = (List.range n).map (l.getD · d)
  | 0, _ => rfl
  | n + 1, h => by
    rw [List.take_add_one, take_eq_getD d l n (by omega), List.range_succ, List.map_append]
    simp [List.getD_eq_getElem?_getD, List.getElem?_eq_getElem (show n < l.length by omega)]

/-- a validated list of twelve items starts with exactly the specification's nine items for the fields that are
    read off it (the access-list item carried opaquely) -/
theorem validate1559_sound (l : List Item) (hlen : 12 ≤ l.length) (hval : validate1559 l min1559Signed = .ok true) :
    ∃ n0, itemInt (l.getD 0 (.list [])) = some n0 ∧
      l.take 9 = Spec.Tx.items1559 (fields (tx1559Of l)) n0 (l.getD 8 (.list [])) := by
  simp only [validate1559, validation_present.2.1, if_true, min1559Signed, ge_iff_le, Nat.le_refl] at hval
  obtain ⟨hi, hb, ha⟩ := validTxScalars_ok hval
  refine ⟨_, itemInt_of_canon (hi 0 (by decide)), ?_⟩
  rw [take_eq_getD (.list []) l 9 (by omega), show List.range 9 = [0, 1, 2, 3, 4, 5, 6, 7, 8] from rfl]
  simp only [List.map_cons, List.map_nil, Spec.Tx.items1559, fields, tx1559Of, scalar_eq_wrapInt, toItem_eq_wrapAddress]
  rw [← isCanonInt_iff.1 (hi 0 (by decide)), ← isCanonInt_iff.1 (hi 1 (by decide)), ← isCanonInt_iff.1 (hi 2 (by decide)),
    ← isCanonInt_iff.1 (hi 3 (by decide)), ← isCanonInt_iff.1 (hi 4 (by decide)),
    ← isAddrOrEmpty_iff.1 (show isAddrOrEmpty (l.getD 5 (.list [])) = true from ha),
    ← isCanonInt_iff.1 (hi 6 (by decide)), ← isStr_iff.1 (hb 7 (by decide))]

theorem chainId_eq {l : List Item} {cid : Int} {n : Nat} (hm : chainIdMatches l cid = true)
    (e : itemInt (l.getD 0 (.list [])) = some n) : (n : Int) = cid := by
  simpa only [chainIdMatches, validation_present.2.2, if_true, e, Option.getD_some, decide_eq_true_eq] using hm

/-- what `decodeEIP1559SignaturePayload` accepted: the embedded chain id is the supplied one, and the first nine items
    are exactly the specification's list for the returned fields (the access-list item carried opaquely) -/
theorem decode1559_sound (raw : Bytes) (cid : Int) (l : List Item) (tx : Tx)
    (h : decode1559 raw cid min1559Signed = .ok (l, tx)) :
    0 ≤ cid ∧ 12 ≤ l.length ∧
    l.take 9 = Spec.Tx.items1559 (fields tx) cid.natAbs (l.getD 8 (.list [])) ∧
    (∃ rest, raw = UInt8.ofNat type1559 :: rest) := by
  obtain ⟨hraw, hlen, hchain, hval, (rfl : tx = tx1559Of l)⟩ := (decode1559_sat raw cid _ (Or.inr rfl)).2 _ h
  obtain ⟨n0, e0, htake⟩ := validate1559_sound l hlen hval
  have hc := chainId_eq hchain e0
  rw [show cid.natAbs = n0 by omega]
  exact ⟨by omega, hlen, htake, hraw⟩

theorem recoverCommon_inv {C : Curve} {tx tx' : Tx} {msg p : Bytes} {cid v : Int} {r s a : Bytes}
    (h : recoverCommon C tx msg cid v r s = .ok (a, tx', p)) :
    tx' = tx ∧ p = msg ∧
    Model.Secp.recover C { V := some v, R := some (fromBE r), S := some (fromBE s) } msg cid = .ok a := by
  rw [recoverCommon_eq, Outcome.bind_eq_ok] at h
  obtain ⟨a', hr, e⟩ := h
  injection e with e; injection e with e1 e2; injection e2 with e2 e3
  subst e1
  exact ⟨e2.symm, e3.symm, hr⟩

/-- **Soundness of EIP-1559 recovery.** Whenever an address is returned: the input passed `decode1559` (so it is a
    type-0x02 envelope whose embedded chain id is the supplied one, `decode1559_sound`); the returned payload is the type
    byte and `enc` of the specification's item list for the returned fields, with the access-list item of the input
    (`C06.enc_eq_spec` makes that the specification preimage where the sizes fit); and the returned address is what the
    library recovers from the V, R, S of the input over keccak256 of exactly that payload (see `C05.recoverDirect_ok`
    for what that means). -/
theorem recover1559_sound (C : Curve) (raw : Bytes) (cid : Int) (a : Bytes) (tx : Tx) (payload : Bytes)
    (h : recover1559 C raw cid = .ok (a, tx, payload)) :
    ∃ (l : List Item) (vBig : Nat), decode1559 raw cid min1559Signed = .ok (l, tx) ∧ 0 ≤ cid ∧
      payload = UInt8.ofNat type1559 :: enc (.list (Spec.Tx.items1559 (fields tx) cid.natAbs (l.getD 8 (.list [])))) ∧
      itemInt (l.getD 9 (.list [])) = some vBig ∧
      recoverDirect C { V := some (bigInt64 vBig), R := some ((fromBE (itemBytes (l.getD 10 (.list []))) : Nat) : Int),
                        S := some ((fromBE (itemBytes (l.getD 11 (.list []))) : Nat) : Int) } (Prim.keccak256 payload) cid = .ok a := by
  unfold recover1559 at h
  split at h
  · cases h
  · cases h
  rename_i l tx' he
  simp only [] at h
  cases hv : itemInt (l.getD 9 (.list [])) with
  | none => rw [hv] at h; cases h
  | some vBig =>
    rw [hv] at h
    obtain ⟨htx, hp, hr⟩ := recoverCommon_inv h
    subst htx
    obtain ⟨hc, _, htake, _⟩ := decode1559_sound raw cid l _ he
    rw [htake] at hp hr
    subst hp
    exact ⟨l, vBig, he, hc, rfl, hv, hr⟩

/-- **A type-0x02 transaction whose embedded chain id differs from the one supplied is refused** — stated the other
    way round: whatever is accepted carries the supplied chain id. -/
theorem chain_id_mismatch_refused (C : Curve) (raw : Bytes) (cid : Int) (l : List Item) (tx : Tx)
    (h : decode1559 raw cid min1559Signed = .ok (l, tx)) :
    ∃ n : Nat, itemInt (l.getD 0 (.list [])) = some n ∧ (n : Int) = cid := by
  obtain ⟨_, hlen, hchain, hval, _⟩ := (decode1559_sat raw cid _ (Or.inr rfl)).2 _ h
  obtain ⟨n0, e0, _⟩ := validate1559_sound l hlen hval
  exact ⟨n0, e0, chainId_eq hchain e0⟩

/-- a validated legacy list starts with exactly the specification's six items for the fields that are returned -/
theorem validateLegacy_sound (l : List Item) (hlen : 9 ≤ l.length) (hval : validateLegacy l = .ok true) :
    l.take 6 = Spec.Tx.legacyItems (fields (legacyTxOf l)) := by
  simp only [validateLegacy, validation_present.1, if_true] at hval
  obtain ⟨hi, hb, ha⟩ := validTxScalars_ok hval
  rw [take_eq_getD (.list []) l 6 (by omega), show List.range 6 = [0, 1, 2, 3, 4, 5] from rfl]
  simp only [List.map_cons, List.map_nil, Spec.Tx.legacyItems, fields, legacyTxOf, scalar_eq_wrapInt, toItem_eq_wrapAddress]
  rw [← isCanonInt_iff.1 (hi 0 (by decide)), ← isCanonInt_iff.1 (hi 1 (by decide)), ← isCanonInt_iff.1 (hi 2 (by decide)),
    ← isAddrOrEmpty_iff.1 (show isAddrOrEmpty (l.getD 3 (.list [])) = true from ha),
    ← isCanonInt_iff.1 (hi 4 (by decide)), ← isStr_iff.1 (hb 5 (by decide))]

/-- **Soundness of legacy recovery, tied to the input.** Whenever an address is returned, `l` is the list the input
    decodes to, the returned fields are its first six items, `v` is its V item — as it stands when 27/28, the original
    legacy payload then; otherwise brought back from the EIP-155 form for the supplied chain id, the EIP-155 payload
    then — and the address is what the library recovers from that V and the input's R, S over keccak256 of exactly
    that payload (`enc` of the specification's item list). -/
theorem recoverLegacy_sound_input (C : Curve) (raw : Bytes) (cid : Int) (a : Bytes) (tx : Tx) (payload : Bytes)
    (h : recoverLegacy C raw cid = .ok (a, tx, payload)) :
    ∃ (l : List Item) (pos vBig : Nat) (v : Int), Decode raw = .ok (some (.list l), pos) ∧
      itemInt (l.getD 6 (.list [])) = some vBig ∧ tx = legacyTxOf l ∧
      ((v = bigInt64 vBig ∧ payload = enc (.list (Spec.Tx.legacyItems (fields tx)))) ∨
       (v = wrap64 (v155ToLegacy (bigInt64 vBig) cid) ∧ bigInt64 vBig ≠ 27 ∧ bigInt64 vBig ≠ 28 ∧
        payload = enc (.list (addEIP155 (Spec.Tx.legacyItems (fields tx)) cid)))) ∧
      (v = 27 ∨ v = 28) ∧
      Model.Secp.recover C { V := some v, R := some ((fromBE (itemBytes (l.getD 7 (.list []))) : Nat) : Int),
                             S := some ((fromBE (itemBytes (l.getD 8 (.list []))) : Nat) : Int) } payload cid = .ok a := by
  obtain ⟨l, pos, vBig, hd, hlen, hval, hv6, h⟩ := (recoverLegacy_sat C raw cid).2 _ h
  have htake := validateLegacy_sound l hlen hval
  unfold legacyTail at h
  split at h
  · rename_i hn1
    split at h
    · cases h
    · rename_i hn2
      obtain ⟨htx, hp, hr⟩ := recoverCommon_inv h
      subst htx
      rw [htake] at hp hr
      subst hp
      rw [vNotLegacy_iff] at hn1 hn2
      exact ⟨l, pos, vBig, _, hd, hv6, rfl, Or.inr ⟨rfl, hn1.1, hn1.2, rfl⟩, by omega, hr⟩
  · rename_i hn1
    obtain ⟨htx, hp, hr⟩ := recoverCommon_inv h
    subst htx
    rw [htake] at hp hr
    subst hp
    rw [vNotLegacy_iff] at hn1
    exact ⟨l, pos, vBig, _, hd, hv6, rfl, Or.inl ⟨rfl, rfl⟩, by omega, hr⟩

/-- **Soundness of legacy recovery**, without the tie of `l`, `v` and the choice of payload to the input that
    `recoverLegacy_sound_input` states. -/
theorem recoverLegacy_sound (C : Curve) (raw : Bytes) (cid : Int) (a : Bytes) (tx : Tx) (payload : Bytes)
    (h : recoverLegacy C raw cid = .ok (a, tx, payload)) :
    ∃ (l : List Item) (v : Int), tx = legacyTxOf l ∧
      (payload = enc (.list (Spec.Tx.legacyItems (fields tx))) ∨
       payload = enc (.list (addEIP155 (Spec.Tx.legacyItems (fields tx)) cid))) ∧
      (v = 27 ∨ v = 28) ∧
      Model.Secp.recover C { V := some v, R := some ((fromBE (itemBytes (l.getD 7 (.list []))) : Nat) : Int),
                             S := some ((fromBE (itemBytes (l.getD 8 (.list []))) : Nat) : Int) } payload cid = .ok a := by
  obtain ⟨l, _, _, v, _, _, htx, hp, hv, hr⟩ := recoverLegacy_sound_input C raw cid a tx payload h
  exact ⟨l, v, htx, hp.elim (fun h => .inl h.2) (fun h => .inr h.2.2.2), hv, hr⟩

/-! ### non-vacuity
The soundness theorems above assume `recover… = .ok …`. Such inputs exist for every lawful curve, key, chain id and
transaction meeting `C01.Fits`: `C01.recover_sign_1559`, `C01.recover_sign_eip155` and `C01.recover_sign_auto` prove
`recoverRaw C (signTx C mode t k cid) cid = .ok (…)`; the last example of `Props/C01.lean` instantiates it with the
lawful toy curve `C05.toyCurve` and a concrete transaction. -/

end FFS.Props.C10
