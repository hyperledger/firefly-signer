/-
  Property C17 — wallet discovery is race-free and notifies each new address exactly once.
  Model: FFS.Model.FsWalletConc (atomic steps justified by the regenerated lock table).
  `lock_discipline` is the regenerated tie that makes each operation one atomic step. One invariant (`Inv`, in every
  reachable state = under every schedule: `inv_reach`) carries `accounts_nodup`, `never_twice` and `exactly_once`;
  `converges` is about one discovery pass (`notify_spec`), `accounts_prefix` about one step of any kind. Sends are
  counted as made plus queued.
  Not provable here (runtime): absence of data races as the Go memory model defines them and absence of deadlock
  are consequences of `lock_discipline` only under the reading "one mutex, never held across a blocking
  operation"; the race detector run of the harness is the evidence for the code, not a theorem.
-/
import FFS.Model.FsWalletConc
import FFS.Gen.FsWalletFacts
import FFS.Lemmas.Assoc
import FFS.Lemmas.Discovery
namespace FFS.Props.C17
open FFS.Model.FsWalletConc FFS.Gen.FsWalletFacts

/-- **Regenerated tie for "converges to the set of matching files".** `Refresh` passes every directory entry whose
    `Info()` succeeds to `notifyNewFiles` — no other filter, no `continue` — so the only thing that decides whether a
    file becomes an account is the naming rule (`matchFilename`), as in the model's `notify` step. -/
theorem refresh_scans_everything : refreshPassesEveryEntry = true := by decide

/-- **Lock discipline**, over the regenerated table: every access to listeners / addressList / addressToFileMap is
    under `w.mux` and not inside a `go` statement; all three fields are covered; the dispatch goroutine ranges over
    the snapshot; `getKeyAndPasswordFiles` does not write the shared configuration; a discovery pass, a listener
    registration and an account listing are each one critical section (so each is one atomic step of the model). -/
theorem lock_discipline :
    lockTable.all (fun r => r.2.2.1 && !r.2.2.2) = true ∧
    (["listeners", "addressList", "addressToFileMap"].all fun f => lockTable.any fun r => r.2.1 == f) = true ∧
    listenersSnapshotUsed = true ∧ formatNotWritten = true ∧ singleCriticalSection = true := by decide +kernel

theorem lookup_cons (a : Addr) (name : String) (m : List (Addr × String)) (a' : Addr) :
    lookup ((a, name) :: m) a' = if a = a' then some name else lookup m a' :=
  Assoc.lookup_cons m a a' name

def scanOne (s : List (Addr × String) × List Addr × List Addr) (f : String × Option Addr) :
    List (Addr × String) × List Addr × List Addr :=
  scan [f] s.1 s.2.1 s.2.2

theorem scan_eq (files : List (String × Option Addr)) :
    ∀ m k n, scan files m k n = files.foldl scanOne (m, k, n) := by
  induction files with
  | nil => exact fun _ _ _ => rfl
  | cons f fs ih =>
    intro m k n
    obtain ⟨name, _ | a⟩ := f
    · exact ih m k n
    · simp only [scan, List.foldl_cons, scanOne]
      -- every branch of `scan` goes on with `fs` from the state in which `scan [f]` ends
      cases lookup m a with
      | none => dsimp only; split <;> exact ih ..
      | some existing => dsimp only; split <;> exact ih ..

/-- One file of a pass that started with the list `k₀`: what has been appended to the list since is what is reported
    as new, and the file's address is listed afterwards unless the file has no name. -/
theorem scanOne_spec (k₀ : List Addr) (s : List (Addr × String) × List Addr × List Addr) (f : String × Option Addr)
    (h : Discovery.Keys (lookup s.1) s.2.1 ∧ s.2.1 = k₀ ++ s.2.2) :
    (Discovery.Keys (lookup (scanOne s f).1) (scanOne s f).2.1 ∧ (scanOne s f).2.1 = k₀ ++ (scanOne s f).2.2) ∧
      ∀ a, a ∈ (scanOne s f).2.1 ↔ a ∈ s.2.1 ∨ f.2 = some a ∧ f.1 ≠ "" := by
  obtain ⟨name, oa⟩ := f
  cases oa with
  | none => exact ⟨h, fun _ => by simp [scanOne, scan]⟩
  | some a =>
    simp only [scanOne, scan]
    cases hl : lookup s.1 a with
    | some existing =>
      have hin : ∀ a', a' ∈ s.2.1 ↔ a' ∈ s.2.1 ∨ some a = some a' ∧ name ≠ "" :=
        fun a' => (or_iff_left_of_imp fun e => Option.some.inj e.1 ▸ (h.1.2 a).mpr (by simp [hl])).symm
      simp only []
      split
      · exact ⟨⟨h.1.update_old (by simp [hl]) (lookup_cons a name s.1), h.2⟩, hin⟩
      · exact ⟨h, hin⟩
    | none =>
      simp only []
      split
      next hne =>
        exact ⟨⟨h.1.update_new hl (lookup_cons a name s.1), by simp [h.2]⟩, by simp [(bne_iff_ne.mp hne).symm, eq_comm]⟩
      next hne => exact ⟨h, by simp [← (by simpa using hne : "" = name)]⟩

theorem mem_dispatchOf (ls : List Lid) (new : List Addr) (p : Lid × Addr) :
    p ∈ dispatchOf ls new ↔ p.1 ∈ ls ∧ p.2 ∈ new := by
  obtain ⟨l, a⟩ := p
  simp [dispatchOf]

theorem dispatchOf_nodup (ls : List Lid) (new : List Addr) (h1 : ls.Nodup) (h2 : new.Nodup) :
    (dispatchOf ls new).Nodup := by
  unfold dispatchOf List.Nodup
  rw [List.pairwise_flatMap]
  constructor
  · intro l _
    rw [List.pairwise_map]
    exact h2.imp fun h e => h (by injection e)
  · refine h1.imp fun hne x hx y hy e => ?_
    simp only [List.mem_map] at hx hy
    obtain ⟨_, _, rfl⟩ := hx
    obtain ⟨_, _, rfl⟩ := hy
    exact hne (by injection e)

theorem popAt_perm (qs : List (List (Lid × Addr))) (i : Nat) (x : Lid × Addr) (qs' : List (List (Lid × Addr)))
    (h : popAt qs i = some (x, qs')) : qs.flatten.Perm (x :: qs'.flatten) := by
  induction qs, i using popAt.induct generalizing qs' with
  | case1 => cases h
  | case2 => cases h
  | case3 y r qs => cases h; exact .refl _
  | case4 q qs i ih =>
    simp only [popAt, Option.map_eq_some_iff] at h
    obtain ⟨p, hp, he⟩ := h
    cases he
    exact ((ih _ hp).append_left q).trans List.perm_middle

/-- the sends as a multiset: a delivery only moves one from its queue to `delivered` (`popAt_perm`) -/
theorem sends_step (s : St) (op : Op) :
    (sends (step s op)).Perm (sends s ++ match op with
      | .notify files => dispatchOf s.listeners (scan files s.fileMap s.known []).2.2
      | _ => []) := by
  cases op with
  | notify files => exact .of_eq (by simp [sends, step, List.flatten_append])
  | addListener l => exact .of_eq (List.append_nil _).symm
  | deliver i =>
    simp only [step, List.append_nil]
    split
    next x qs hp => simpa [sends] using ((popAt_perm s.queues i x qs hp).append_left s.delivered).symm
    · exact .refl _
  | getAccounts => exact .of_eq (List.append_nil _).symm

structure Inv (s : St) : Prop where
  knownNodup : s.known.Nodup
  knownIff : ∀ a, a ∈ s.known ↔ (lookup s.fileMap a).isSome = true
  lsNodup : s.listeners.Nodup
  sendsNodup : (sends s).Nodup
  sendsIn : ∀ p ∈ sends s, p.2 ∈ s.known ∧ p.1 ∈ s.listeners

theorem inv_init : Inv init :=
  ⟨List.nodup_nil, by simp [init, lookup], List.nodup_nil, List.nodup_nil, nofun⟩

/-- `d`, by which the account list grows, is exactly what the pass dispatches to the listeners -/
theorem notify_spec (s : St) (files : List (String × Option Addr)) (h : Inv s) :
    let t := step s (.notify files)
    let d := (scan files s.fileMap s.known []).2.2
    Discovery.Keys (lookup t.fileMap) t.known ∧ t.known = s.known ++ d ∧
      ∀ a, a ∈ t.known ↔ a ∈ s.known ∨ ∃ f ∈ files, f.2 = some a ∧ f.1 ≠ "" := by
  simp only [step, scan_eq]
  exact and_assoc.mp (Discovery.foldl_grow scanOne _ (·.2.1) _ (scanOne_spec s.known) files (s.fileMap, s.known, [])
    ⟨⟨h.knownNodup, h.knownIff⟩, (List.append_nil _).symm⟩)

theorem inv_step (s : St) (op : Op) (h : Inv s) (hok : okOp s op) : Inv (step s op) := by
  have hs := sends_step s op
  cases op with
  | notify files =>
    obtain ⟨hK, hk, -⟩ := notify_spec s files h
    -- old sends carry listed addresses, the new dispatches carry the addresses just added
    have hkd := List.nodup_append.mp (hk ▸ hK.1)
    have hnew := mem_dispatchOf s.listeners (scan files s.fileMap s.known []).2.2
    refine ⟨hK.1, hK.2, h.lsNodup, hs.nodup_iff.mpr ?_, fun p hp => ?_⟩
    · exact List.nodup_append.mpr ⟨h.sendsNodup, dispatchOf_nodup _ _ h.lsNodup hkd.2.1,
        fun p hp q hq e => hkd.2.2 _ (h.sendsIn p hp).1 _ ((hnew q).mp hq).2 (e ▸ rfl)⟩
    · rw [hk]
      rcases List.mem_append.mp (hs.mem_iff.mp hp) with hp | hp
      · exact ⟨List.mem_append_left _ (h.sendsIn p hp).1, (h.sendsIn p hp).2⟩
      · exact ⟨List.mem_append_right _ ((hnew p).mp hp).2, ((hnew p).mp hp).1⟩
  | addListener l =>
    exact ⟨h.knownNodup, h.knownIff, Discovery.nodup_snoc h.lsNodup hok, h.sendsNodup,
      fun p hp => ⟨(h.sendsIn p hp).1, List.mem_append_left _ (h.sendsIn p hp).2⟩⟩
  | deliver i =>
    revert hs
    simp only [step, List.append_nil]
    split
    · exact fun hs => ⟨h.knownNodup, h.knownIff, h.lsNodup, hs.nodup_iff.mpr h.sendsNodup,
        fun p hp => h.sendsIn p (hs.mem_iff.mp hp)⟩
    · exact fun _ => h
  | getAccounts => exact h

/-- **Every schedule.** The invariant holds in every reachable state. -/
theorem inv_reach {s : St} (h : Reach s) : Inv s := by
  induction h with
  | init => exact inv_init
  | step op _ hok ih => exact inv_step _ op ih hok

/-- **The account list never contains duplicates.** -/
theorem accounts_nodup {s : St} (h : Reach s) : s.known.Nodup := (inv_reach h).knownNodup

/-- **No listener ever receives an address twice** (sends made plus sends still queued, under any schedule). -/
theorem never_twice {s : St} (h : Reach s) (l : Lid) (a : Addr) : (sends s).count (l, a) ≤ 1 :=
  List.nodup_iff_count.mp (inv_reach h).sendsNodup (l, a)

/-- sends are never lost: whatever is sent or queued stays sent or queued -/
theorem sends_mono_run (ops : List Op) (s : St) (p : Lid × Addr) (hp : p ∈ sends s) : p ∈ sends (run s ops) :=
  List.foldlRecOn ops step (motive := fun t => p ∈ sends t) hp
    fun t ht op _ => (sends_step t op).mem_iff.mpr (List.mem_append_left _ ht)

/-- `okOp` at every step of the run: every listener registration along the way is of a fresh channel -/
def okRun : St → List Op → Prop
  | _, [] => True
  | s, op :: ops => okOp s op ∧ okRun (step s op) ops

theorem reach_run (ops : List Op) : ∀ (s : St), Reach s → okRun s ops → Reach (run s ops) := by
  induction ops with
  | nil => exact fun s h _ => h
  | cons op ops ih => exact fun s h hok => ih (step s op) (Reach.step op h hok.1) hok.2

/-- **Exactly once.** If listener `l` is registered when a discovery pass first lists address `a`, then after that
    pass, and after any further operations in any order, `a` has been sent to `l` or is queued for it — exactly
    once. -/
theorem exactly_once {s : St} (h : Reach s) (files : List (String × Option Addr)) (l : Lid) (a : Addr)
    (hl : l ∈ s.listeners) (hnew : a ∉ s.known) (hadd : a ∈ (step s (.notify files)).known)
    (later : List Op) (hok : okRun (step s (.notify files)) later) :
    (sends (run (step s (.notify files)) later)).count (l, a) = 1 := by
  have had := (List.mem_append.mp ((notify_spec s files (inv_reach h)).2.1 ▸ hadd)).resolve_left hnew
  have hq : (l, a) ∈ sends (step s (.notify files)) :=
    (sends_step s (.notify files)).mem_iff.mpr (List.mem_append_right _ ((mem_dispatchOf _ _ _).mpr ⟨hl, had⟩))
  have hpos := List.count_pos_iff.mpr (sends_mono_run later _ _ hq)
  have hle := never_twice (reach_run later _ (Reach.step (.notify files) h trivial) hok) l a
  omega

/-- once the dispatch goroutines have finished, "sent" means "delivered" -/
theorem delivered_when_drained {s : St} (l : Lid) (a : Addr) (hdr : s.queues.flatten = []) :
    s.delivered.count (l, a) = (sends s).count (l, a) := by
  simp [sends, hdr]

/-- **Convergence.** After a discovery pass over `files`, every address matched by a (non-empty) file name is in
    the account list; and an address is only ever listed because some pass matched a file to it. -/
theorem converges {s : St} (h : Reach s) (files : List (String × Option Addr)) :
    (∀ name a, (name, some a) ∈ files → name ≠ "" → a ∈ (step s (.notify files)).known) ∧
    (∀ a ∈ (step s (.notify files)).known, a ∈ s.known ∨ ∃ name, (name, some a) ∈ files) := by
  have hm := (notify_spec s files (inv_reach h)).2.2
  exact ⟨fun name a hf hne => (hm a).mpr (.inr ⟨_, hf, rfl, hne⟩),
    fun a ha => ((hm a).mp ha).imp_right fun ⟨f, hf, e, _⟩ => ⟨f.1, e ▸ hf⟩⟩

/-- the account list only grows: nothing listed is ever dropped or reordered by a later operation -/
theorem accounts_prefix (s : St) (op : Op) (h : Inv s) : ∃ d, (step s op).known = s.known ++ d := by
  cases op with
  | notify files => exact ⟨_, (notify_spec s files h).2.1⟩
  | addListener l => exact ⟨[], (List.append_nil _).symm⟩
  | deliver i => simp only [step]; split <;> exact ⟨[], (List.append_nil _).symm⟩
  | getAccounts => exact ⟨[], (List.append_nil _).symm⟩

/-- non-vacuity: a concrete schedule — two listeners, a pass that finds two files for one address and one for
    another, interleaved deliveries — meets the hypotheses and ends with each pair delivered once. -/
example :
    let s := run init [.addListener 1, .addListener 2,
      .notify [("a.json", some 10), ("0xa.json", some 10), ("b.json", some 11), ("x", none)],
      .deliver 0, .notify [("a.json", some 10)], .deliver 1, .deliver 0, .deliver 0, .deliver 0]
    s.known = [10, 11] ∧ s.queues.flatten = [] ∧ s.delivered = [(1, 10), (1, 11), (2, 10), (2, 11)] := by
  decide

end FFS.Props.C17
