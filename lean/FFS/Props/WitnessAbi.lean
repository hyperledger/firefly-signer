/-
  FFS.Props.WitnessAbi — non-vacuity witnesses of C12 that force Keccak-256 inside the kernel (≈10 s each):
  the hypotheses `decodeCallData … = .ok`, `decodeEventData … = .ok`, `parseError … = some` of the C12 theorems hold
  on concrete ERC-20 inputs. `decide +kernel` only: no axiom. Two hashes are computed, the selectors of
  `transfer(address,uint256)` and of `Error(string)`; the event witness needs none, since the topic it is given is
  the event's own signature hash whatever that is.
-/
import FFS.Props.C12
namespace FFS.Props.C12
open FFS FFS.Model.Abi

theorem selector_exFn : selector exFn = .ok [0xa9, 0x05, 0x9c, 0xbb] := by decide +kernel

example : (selector exFn == .ok [0xa9, 0x05, 0x9c, 0xbb]) = true := by rw [selector_exFn]; rfl
example : isOk (decodeCallData exFn ([0xa9, 0x05, 0x9c, 0xbb] ++ word 1 ++ word 2)) = true := by
  rw [decodeCallData, selector_exFn]; decide +kernel

theorem signature_exEv : signature exEv = .ok "Transfer(address,address,uint256)" := by decide +kernel

/-- a log with the event's own signature topic and two indexed topics decodes; revert data `Error("hi")` is attributed
    to the built-in error (index 0) -/
example : (match signatureHash exEv with
    | .ok h => isOk (decodeEventData exEv [h, word 1, word 2] (word 3))
    | _ => false) = true := by
  have hs := (selector_is_hash_prefix exEv _ signature_exEv).2
  rw [hs]
  dsimp only
  -- the anonymous event never looks at its signature hash, so the kernel does not compute it
  rw [decodeEventData_own_topic exEv _ _ _ rfl hs]
  decide +kernel
example : ((parseError [] ([0x08, 0xc3, 0x79, 0xa0] ++ word 32 ++ word 2 ++ ([0x68, 0x69] ++ zeros 30))).map (·.1) == some 0) = true := by
  decide +kernel

end FFS.Props.C12
