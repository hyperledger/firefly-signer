/-
  Property C06 — RLP codec: canonical encoding, exact round trip, total in-bounds decoding.
  The statements about whole trees and the induction over the decoder's fuel are here; single headers are in
  FFS.Lemmas.Rlp.
  Model: FFS.Model.Rlp (mirrors /repo/pkg/rlp, constants regenerated into FFS.Gen.RlpConsts).
  Spec : FFS.Spec.Rlp  (Yellow Paper appendix B).
-/
import FFS.Lemmas.Rlp
namespace FFS.Props.C06
open FFS FFS.Model.Rlp FFS.Gen.RlpConsts

mutual
  /-- every string and every list payload of the tree is shorter than `B` bytes -/
  def Small (B : Nat) : Item → Prop
    | .str b => b.length < B
    | .list xs => (Spec.Rlp.rlpSeq xs).length < B ∧ SmallL B xs
  def SmallL (B : Nat) : List Item → Prop
    | [] => True
    | x :: xs => Small B x ∧ SmallL B xs
end

mutual
  /-- `Element.Encode()` equals Yellow-Paper RLP for every tree (any depth, any width) whose lengths fit
      Go's `int64(len(..))` conversion — which every Go slice length does. -/
  theorem enc_eq_spec : (t : Item) → Small (2 ^ 64) t → enc t = Spec.Rlp.rlp t
    | .str b, h => encodeBytes_str b h
    | .list xs, h => by
      rw [enc, Spec.Rlp.rlp, encList_eq_spec xs h.2]
      exact encodeBytes_list _ h.1
  theorem encList_eq_spec : (xs : List Item) → SmallL (2 ^ 64) xs → encList xs = Spec.Rlp.rlpSeq xs
    | [], _ => rfl
    | x :: xs, h => by
      rw [encList, Spec.Rlp.rlpSeq, enc_eq_spec x h.1, encList_eq_spec xs h.2]
end

/-- Fuel of twice the input length suffices (every list level costs two and consumes at least its prefix byte), and
    what the decoder returns is below its own size cap and re-encodes canonically into no more than the bytes
    consumed. One induction, because the fuel bound for the rest of a list needs the bound on what was consumed. -/
theorem dec_sat : ∀ fuel,
    (∀ bs : Bytes, bs ≠ [] → 2 * bs.length ≤ fuel → (decOne fuel bs).Sat fun r =>
        Small (2 ^ 31) r.1 ∧ (Spec.Rlp.rlp r.1).length ≤ r.2 ∧ r.2 ≤ bs.length) ∧
    (∀ bs : Bytes, 2 * bs.length + 1 ≤ fuel → (decMany fuel bs).Sat fun xs =>
        SmallL (2 ^ 31) xs ∧ (Spec.Rlp.rlpSeq xs).length ≤ bs.length) := by
  intro fuel
  induction fuel with
  | zero =>
    exact ⟨fun bs hne hf => absurd (List.eq_nil_of_length_eq_zero (by omega)) hne, fun bs hf => by omega⟩
  | succ f ih =>
    constructor
    · intro bs hne hf
      rw [decOne_succ]
      refine (header_sat hne).bind fun h _ hs => ?_
      cases h with
      | leaf it n =>
        obtain ⟨hn, d, rfl, hd, hc⟩ := hs
        exact Outcome.sat_ok ⟨hd, hc, hn⟩
      | sub p n =>
        obtain ⟨hn, hp, hc⟩ := hs
        have := lt_Rl_length p
        refine (ih.2 p (by omega)).bind fun c _ hc' => Outcome.sat_ok ⟨⟨?_, hc'.1⟩, ?_, hn⟩
        · exact Nat.lt_of_le_of_lt hc'.2 hp
        · have := Rl_length_mono hc'.2
          rw [Spec.Rlp.rlp]; omega
    · intro bs hf
      cases bs with
      | nil => exact Outcome.sat_ok ⟨trivial, Nat.le_refl _⟩
      | cons b t =>
        rw [decMany_succ_cons]
        refine (ih.1 (b :: t) (by simp) (by omega)).bind fun r _ hr => ?_
        obtain ⟨h1, hl, hn⟩ := hr
        have := rlp_length_pos r.1
        refine (ih.2 ((b :: t).drop r.2) (by rw [List.length_drop]; omega)).bind fun more _ hm =>
          Outcome.sat_ok ⟨⟨h1, hm.1⟩, ?_⟩
        have := hm.2
        rw [List.length_drop] at this
        rw [Spec.Rlp.rlpSeq, List.length_append]; omega

/-- **Regenerated tie for "every canonical encoding is accepted".** The recursive decoder still takes the data and an
    element limit and nothing else — no depth or size budget that the model's decoder (fuel computed from the input
    length alone, `fuelFor`, proved sufficient by `decode_total`) does not have. -/
theorem decode_unbudgeted : decodeShape = true := by decide

/-- `Decode` never panics (no slice out of range, no fuel exhaustion) on any byte string, and an element it returns
    has the postcondition of `dec_sat`: `fuelFor` is enough fuel. -/
theorem decode_sat (bs : Bytes) : (Decode bs).Sat fun r => ∀ it, r.1 = some it →
    Small (2 ^ 31) it ∧ (Spec.Rlp.rlp it).length ≤ r.2 ∧ r.2 ≤ bs.length := by
  cases bs with
  | nil => exact Outcome.sat_ok fun _ e => by cases e
  | cons b t =>
    rw [Decode_cons]
    exact ((dec_sat _).1 (b :: t) (by simp) (by simp [fuelFor])).bind fun r _ hr =>
      Outcome.sat_ok fun it e => by cases e; exact hr

theorem decode_total (bs : Bytes) : Decode bs ≠ .panic := (decode_sat bs).1

theorem Decode_ok {bs : Bytes} {it : Item} {pos : Nat} (h : Decode bs = .ok (some it, pos)) :
    Small (2 ^ 31) it ∧ (Spec.Rlp.rlp it).length ≤ pos ∧ pos ≤ bs.length :=
  (decode_sat bs).2 _ h it rfl

/-- The reported end position lies within the input (and is ≥ 1 for non-empty input). -/
theorem decode_in_bounds {bs : Bytes} {it : Item} {pos : Nat}
    (h : Decode bs = .ok (some it, pos)) : 1 ≤ pos ∧ pos ≤ bs.length := by
  obtain ⟨_, hl, hn⟩ := Decode_ok h
  exact ⟨Nat.lt_of_lt_of_le (rlp_length_pos it) hl, hn⟩

mutual
  /-- stated for every sufficient fuel, so that no comparison of fuels is ever needed -/
  theorem decOne_rlp : (t : Item) → Small (2 ^ 31) t → (rest : Bytes) → (f : Nat) →
      2 * (Spec.Rlp.rlp t).length ≤ f → decOne f (Spec.Rlp.rlp t ++ rest) = .ok (t, (Spec.Rlp.rlp t).length)
    | .str b, h, rest, f + 1, _ => by
      rw [Spec.Rlp.rlp, decOne, header_Rb b rest (Nat.le_of_lt_succ h)]
    | .list xs, h, rest, f + 1, hf => by
      rw [Spec.Rlp.rlp] at hf ⊢
      have := lt_Rl_length (Spec.Rlp.rlpSeq xs)
      rw [decOne, header_Rl _ rest (Nat.le_of_lt_succ h.1)]
      simp only [decMany_rlpSeq_fuel xs h.2 f (by omega)]
    | t, _, _, 0, hf => absurd hf (by have := rlp_length_pos t; omega)
  theorem decMany_rlpSeq_fuel : (xs : List Item) → SmallL (2 ^ 31) xs → (f : Nat) →
      2 * (Spec.Rlp.rlpSeq xs).length + 1 ≤ f → decMany f (Spec.Rlp.rlpSeq xs) = .ok xs
    | [], _, f + 1, _ => rfl
    | x :: xs, h, f + 1, hf => by
      have hpos := rlp_length_pos x
      rw [Spec.Rlp.rlpSeq, List.length_append] at hf
      rw [Spec.Rlp.rlpSeq]
      cases hc : Spec.Rlp.rlp x ++ Spec.Rlp.rlpSeq xs with
      | nil => simp [rlp_ne_nil x] at hc
      | cons b t =>
        rw [decMany, ← hc]
        simp only [decOne_rlp x h.1 _ f (by omega), List.drop_left, decMany_rlpSeq_fuel xs h.2 f (by omega)]
end

theorem decMany_rlpSeq : (xs : List Item) → SmallL (2 ^ 31) xs →
      ∃ f, decMany f (Spec.Rlp.rlpSeq xs) = .ok xs :=
  fun xs h => ⟨_, decMany_rlpSeq_fuel xs h _ (Nat.le_refl _)⟩

/-- **Round trip with end position.** Decoding the canonical encoding of any tree, followed by any
    other bytes, returns the identical tree and the position just past it.
    `Small (2^31)`: the decoder's own cap (`maxInt32`); the property's 2^24 bound lies inside. -/
theorem decode_rlp_append (t : Item) (h : Small (2 ^ 31) t) (rest : Bytes) :
    Decode (Spec.Rlp.rlp t ++ rest) = .ok (some t, (Spec.Rlp.rlp t).length) := by
  unfold Decode
  cases hc : Spec.Rlp.rlp t ++ rest with
  | nil => simp [rlp_ne_nil t] at hc
  | cons _ _ =>
    simp only []
    rw [← hc, decOne_rlp t h rest _ (by simp [fuelFor]; omega)]

theorem small_mono {B B' : Nat} (hB : B ≤ B') : (t : Item) → Small B t → Small B' t
  | .str _, h => Nat.lt_of_lt_of_le h hB
  | .list xs, h => ⟨Nat.lt_of_lt_of_le h.1 hB, smallL_mono hB xs h.2⟩
where smallL_mono {B B' : Nat} (hB : B ≤ B') : (xs : List Item) → SmallL B xs → SmallL B' xs
  | [], _ => trivial
  | x :: xs, h => ⟨small_mono hB x h.1, smallL_mono hB xs h.2⟩

/-- The same statement about the model of the Go encoder itself. -/
theorem decode_enc_append (t : Item) (h : Small (2 ^ 31) t) (rest : Bytes) :
    Decode (enc t ++ rest) = .ok (some t, (enc t).length) := by
  rw [enc_eq_spec t (small_mono (by decide) t h)]
  exact decode_rlp_append t h rest

/-- **Stability.** If decoding arbitrary bytes returns an element, re-encoding it and decoding again
    returns the same element and consumes exactly the re-encoding. -/
theorem decode_stable {bs : Bytes} {it : Item} {pos : Nat} (h : Decode bs = .ok (some it, pos)) :
    Decode (enc it) = .ok (some it, (enc it).length) := by
  simpa using decode_enc_append it (Decode_ok h).1 []

/-- Non-vacuity of the size hypothesis: a depth-3 tree with a 56-byte string (long form) is `Small`. -/
example : Small (2 ^ 31) (.list [.str (List.replicate 56 7), .list [.list [.str [0x80]], .str []]]) := by
  have : (minBE 56).length ≤ 1 := minBE_length_le (by decide)
  simp [Small, SmallL, Spec.Rlp.rlpSeq, Spec.Rlp.rlp, Spec.Rlp.Rb, Spec.Rlp.Rl]
  omega

/-- Every canonical encoding (the Yellow-Paper encoding of some tree — what any strict decoder accepts,
    yielding that tree) is accepted and decoded to exactly that tree, consuming all of it. -/
theorem canonical_accepted (t : Item) (h : Small (2 ^ 31) t) :
    Decode (Spec.Rlp.rlp t) = .ok (some t, (Spec.Rlp.rlp t).length) := by
  simpa using decode_rlp_append t h []

end FFS.Props.C06
