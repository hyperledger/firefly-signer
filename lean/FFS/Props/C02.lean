/-
  Property C02 — ABI encoding equals the Solidity ABI specification for every type and value.
  Model: FFS.Model.Abi.encode (pkg/abi/abiencode.go: elementary encoders, the three-pass head/tail layout with
  value-driven dynamic flags). Spec: FFS.Spec.Abi.enc / isDynamic (from the Solidity ABI specification).
  * `encode_eq_spec` : for every valid type tree (elementary widths as the type parser admits them) and every
                       well-typed value, the model encoder returns exactly the specification bytes, and its
                       value-driven dynamic flag equals the specification's type-driven one. No bound on depth,
                       arity, array length or byte length — other than encodings being shorter than 2^256 bytes,
                       the width of an offset word (`Small`).
  * `uint_out_of_range_rejected`, `int_out_of_range_rejected` : an integer outside the range of its declared width
                       is an error, never a wrapped value (`encodeElem_uint`, `encodeElem_sint` say what is accepted).
  * `input_integer_exact`, `input_text_sound`, `input_fraction_rejected`, `input_float_rejected`, `input_arity` :
                       what the input walk (Model.AbiIO.walkInput) accepts for an integer leaf or a fixed array is
                       exactly the value the input denotes, or it is rejected.
  fixed<M>x<N> / ufixed<M>x<N> are not covered (known finding C02-fixedpoint; not modelled); the input walk on the
  other leaves and on tuples is covered by the correspondence run, not proved.
-/
import FFS.Model.AbiIO
import FFS.Spec.Abi
import FFS.Lemmas.Abi
import FFS.Lemmas.Outcome
import FFS.Props.C19
namespace FFS.Props.C02
open FFS FFS.Model.Abi FFS.Spec.Abi

/-- name, codec and width of an elementary type as `parseElementary` produces them from the type table -/
def ElemOK (info : ElemInfo) (suffix : String) (m : Nat) : Prop :=
  (info.name = "int" ∧ codecOf info.enc = .sint ∧ 8 ≤ m ∧ m ≤ 256 ∧ m % 8 = 0) ∨
  (info.name = "uint" ∧ codecOf info.enc = .uint ∧ 8 ≤ m ∧ m ≤ 256 ∧ m % 8 = 0) ∨
  (info.name = "address" ∧ codecOf info.enc = .uint ∧ m = 160) ∨
  (info.name = "bool" ∧ codecOf info.enc = .uint ∧ m = 8) ∨
  (info.name = "bytes" ∧ codecOf info.enc = .bytes ∧ ((suffix = "" ∧ m = 0) ∨ (suffix ≠ "" ∧ 1 ≤ m ∧ m ≤ 32))) ∨
  (info.name = "function" ∧ codecOf info.enc = .bytes ∧ m = 24) ∨
  (info.name = "string" ∧ codecOf info.enc = .string ∧ m = 0)

/-- the regenerated type table assigns exactly these encoders -/
theorem table_codecs :
    (Gen.AbiTypeTable.table.map fun i => (i.name, codecOf i.enc)) =
      [("address", .uint), ("bool", .uint), ("bytes", .bytes), ("fixed", .float), ("function", .bytes),
       ("int", .sint), ("string", .string), ("ufixed", .float), ("uint", .uint)] := by decide +kernel

mutual
  def ValidTy : Ty → Prop
    | .elem info suffix m _ => ElemOK info suffix m
    | .farr t _ => ValidTy t
    | .darr t => ValidTy t
    | .tuple _ ts => ValidTys ts
  def ValidTys : List Ty → Prop
    | [] => True
    | t :: ts => ValidTy t ∧ ValidTys ts
end

/-- **Regenerated tie for the signed range check.** `checkSignedIntFits` still decides by comparing with the two per-width
    bounds, and the bounds are still `2^(m-1) - 1` and `-(2^(m-1))` — the shape the model's `-(2^(m-1)) ≤ z < 2^(m-1)`
    mirrors. The facts are ordered-substring tests on the source: a rewrite that removes those spellings breaks this
    obligation, and the check then searches the far-out-of-range candidates for an input the rewritten code accepts. -/
theorem signed_range_facts : Gen.AbiCodecFacts.signedRangeByBounds = true ∧ Gen.AbiCodecFacts.signedPosBound = true ∧
    Gen.AbiCodecFacts.signedNegBound = true := by decide

theorem encodeDynamicBytes_eq (b : Bytes) : encodeDynamicBytes b = encUint b.length ++ padRight32 b := by
  -- Go rounds the length up to a multiple of 32; the specification pads by what is missing to one
  have pad : ∀ len : Nat, (len / 32) * 32 + (if len % 32 ≠ 0 then 32 else 0) - len = (32 - len % 32) % 32 := by
    intro len; split <;> omega
  simp only [encodeDynamicBytes, encUint, padRight32, pad, List.append_assoc]

theorem encodeElem_uint {info : ElemInfo} (hc : codecOf info.enc = .uint) (m : Nat) (z : Int) :
    encodeElem info m (.int z) =
      if 0 ≤ z ∧ z < 2 ^ m then (fillBytes? z.toNat 32).bind fun d => .ok (d, false) else .err := by
  unfold encodeElem
  simp only [hc]
  by_cases h0 : z < 0
  · rw [if_pos h0, if_neg (by omega)]
  · have := bitLen_le_iff z.toNat m
    have := toNat_lt_pow_iff (Int.not_lt.mp h0) m
    rw [if_neg h0]
    by_cases hb : bitLen z.toNat > m
    · rw [if_pos hb, if_neg (by omega)]
    · rw [if_neg hb, if_pos (by omega)]

theorem encodeElem_sint {info : ElemInfo} (hc : codecOf info.enc = .sint) (m : Nat) (z : Int) :
    encodeElem info m (.int z) = if checkSignedIntFits z m then .ok (toBE 32 (z % 2 ^ 256).toNat, false) else .err := by
  unfold encodeElem
  simp only [hc, serializeInt256]

theorem checkSignedIntFits_iff (z : Int) (m : Nat) : checkSignedIntFits z m = true ↔
    z = 0 ∨ (8 ≤ m ∧ m ≤ 256 ∧ m % 8 = 0 ∧ -(2 : Int) ^ (m - 1) ≤ z ∧ z < 2 ^ (m - 1)) := by
  have hpos : (0 : Int) < 2 ^ (m - 1) := Int.pow_pos (by decide)
  unfold checkSignedIntFits
  split
  · simp [*]
  · split <;> simp only [Bool.and_eq_true, decide_eq_true_eq] <;> omega

theorem encodeElem_eq (info : ElemInfo) (suffix : String) (m n : Nat) (v : CV) (hok : ElemOK info suffix m)
    (hw : Spec.Abi.WellTyped (.elem info suffix m n) v = true) :
    encodeElem info m v = .ok (Spec.Abi.encElem info suffix m v, Spec.Abi.isDynamic (.elem info suffix m n)) := by
  have h := leaf_of hok hw
  generalize encElem info suffix m v = e, isDynamic (.elem info suffix m n) = d at h ⊢
  cases h with
  | sint z _ hc h8 h256 hmod hlo hhi =>
    rw [encodeElem_sint hc, if_pos ((checkSignedIntFits_iff z m).mpr (.inr ⟨h8, h256, hmod, hlo, hhi⟩))]
  | uint z _ hc h256 _ h0 hlt =>
    rw [encodeElem_uint hc, if_pos ⟨h0, hlt⟩, fillBytes_word ((toNat_lt_pow_iff h0 m).mpr hlt) h256]; rfl
  | fixed b _ hc h1 h32 hlen =>
    unfold encodeElem
    simp only [hc]
    rw [if_neg (by omega), if_neg (by omega), List.take_of_length_le (by omega)]
  | bytes b _ hc hm => unfold encodeElem; simp only [hc, hm, if_true, encodeDynamicBytes_eq]
  | string b _ hc hm => unfold encodeElem; simp only [hc, encodeDynamicBytes_eq]

/-- model items (data, dynamic) ↦ specification items (dynamic, data) -/
def sw (items : List (Bool × Bytes)) : List (Bytes × Bool) := items.map fun p => (p.2, p.1)

/-- bytes placed in the tail area -/
def tailLen : List (Bool × Bytes) → Nat
  | [] => 0
  | (dyn, e) :: r => (if dyn then e.length else 0) + tailLen r

theorem writeChildren_eq (hl : Nat) : ∀ (items : List (Bool × Bytes)) (tb : Nat),
    hl + tb + tailLen items < 256 ^ 32 →
    writeChildren (sw items) (hl + tb) = .ok (Spec.Abi.assembleGo hl items tb)
  | [], _, _ => rfl
  | (true, e) :: r, tb, hb => by
    simp only [tailLen, if_true] at hb
    have hrec := writeChildren_eq hl r (tb + e.length) (by omega)
    rw [← Nat.add_assoc] at hrec
    simp only [sw, List.map_cons, writeChildren, if_true, fillBytes?, if_pos (show hl + tb < 256 ^ 32 by omega)] at hrec ⊢
    rw [hrec]
    rfl
  | (false, e) :: r, tb, hb => by
    simp only [tailLen, Bool.false_eq_true, if_false, Nat.zero_add] at hb
    have hrec := writeChildren_eq hl r tb hb
    simp only [sw, List.map_cons, writeChildren, Bool.false_eq_true, if_false] at hrec ⊢
    rw [hrec]
    rfl

theorem headLen_eq (items : List (Bool × Bytes)) :
    ((sw items).map fun (d, dyn) => if dyn then 32 else d.length).sum = Spec.Abi.headsLen items := by
  induction items with
  | nil => simp [sw, Spec.Abi.headsLen]
  | cons p r ih =>
    obtain ⟨dyn, e⟩ := p
    simp only [sw, List.map_cons, List.sum_cons, Spec.Abi.headsLen] at ih ⊢
    rw [ih]

theorem any_sw (items : List (Bool × Bytes)) : (sw items).any (·.2) = items.any (·.1) := List.any_map

/-- encodings fit an offset word -/
def LayoutSmall (items : List (Bool × Bytes)) : Prop := Spec.Abi.headsLen items + tailLen items < 256 ^ 32

/-- `encodeABIChildren` on children already encoded to the specification's items, with or without the count word -/
theorem layoutChildren_eq (items : List (Bool × Bytes)) (known incl : Bool) (hs : LayoutSmall items)
    (hn : incl = true → items.length < 256 ^ 32) :
    layoutChildren (sw items) known incl =
      .ok ((if incl then encUint items.length else []) ++ assemble items, known || items.any (·.1)) := by
  unfold layoutChildren
  simp only [headLen_eq, any_sw]
  have := writeChildren_eq (headsLen items) items 0 hs
  rw [Nat.add_zero] at this
  rw [this]
  cases incl with
  | false => rfl
  | true =>
    simp only [sw, List.length_map, if_true]
    rw [fillBytes?_ok (hn rfl)]
    simp only [assemble, encUint, List.append_assoc]

theorem layout_eq (items : List (Bool × Bytes)) (known : Bool) (hs : LayoutSmall items) :
    layoutChildren (sw items) known false = .ok (Spec.Abi.assemble items, known || items.any (·.1)) :=
  layoutChildren_eq items known false hs (fun h => nomatch h)

mutual
  /-- every array / tuple node's layout fits an offset word (2^256 bytes), and array counts fit a word -/
  def Small : Ty → CV → Prop
    | .farr t _, .kids cs => SmallSame t cs ∧ LayoutSmall (Spec.Abi.encSame t cs)
    | .darr t, .kids cs => SmallSame t cs ∧ LayoutSmall (Spec.Abi.encSame t cs) ∧ cs.length < 256 ^ 32
    | .tuple _ ts, .kids cs => SmallEach ts cs ∧ LayoutSmall (Spec.Abi.encEach ts cs)
    | _, _ => True
  def SmallSame : Ty → List CV → Prop
    | _, [] => True
    | t, c :: cs => Small t c ∧ SmallSame t cs
  def SmallEach : List Ty → List CV → Prop
    | t :: ts, c :: cs => Small t c ∧ SmallEach ts cs
    | _, _ => True
end

theorem encode_all :
    (∀ t v, WellTyped t v = true → ValidTy t → Small t v → encode t v = .ok (enc t v, isDynamic t)) ∧
    (∀ ts cs, wellTypedEach ts cs = true → ValidTys ts → SmallEach ts cs → encodeEach ts cs = .ok (sw (encEach ts cs))) ∧
    (∀ t cs, wellTypedSame t cs = true → ValidTy t → SmallSame t cs → encodeSame t cs = .ok (sw (encSame t cs))) := by
  apply wellTyped_induct
  case elem =>
    intro info sfx m n v hw hv _
    rw [encode, enc]
    exact encodeElem_eq info sfx m n v hv hw
  case farr =>
    intro t cs _ ih hv hs
    rw [encode, ih hv hs.1, enc, isDynamic]
    exact (layout_eq _ false hs.2).trans (by rw [encSame_any, Bool.false_or])
  case darr =>
    intro t cs _ ih hv hs
    rw [encode, ih hv hs.1, enc, isDynamic]
    exact (layoutChildren_eq _ true true hs.2.1 (fun _ => by rw [encSame_length]; exact hs.2.2)).trans
      (by rw [encSame_length]; rfl)
  case tuple =>
    intro ns ts cs hw ih hv hs
    rw [encode, ih hv hs.1, enc, isDynamic]
    exact (layout_eq _ false hs.2).trans (by rw [encEach_any ts cs hw, Bool.false_or])
  case enil =>
    exact fun _ _ => rfl
  case econs =>
    intro t ts c cs _ _ ih ihs hv hs
    rw [encodeEach, ih hv.1 hs.1, ihs hv.2 hs.2]
    rfl
  case snil =>
    exact fun _ _ _ => rfl
  case scons =>
    intro t c cs _ _ ih ihs hv hs
    rw [encodeSame, ih hv hs.1, ihs hv hs.2]
    rfl

/-- **The encoder produces the specification encoding** of every well-typed value of every valid type, and its
    value-driven dynamic flag is the specification's type-driven one. -/
theorem encode_eq_spec : ∀ (v : CV) (t : Ty), ValidTy t → Spec.Abi.WellTyped t v = true → Small t v →
    encode t v = .ok (Spec.Abi.enc t v, Spec.Abi.isDynamic t) :=
  fun v t hv hw hs => encode_all.1 t v hw hv hs

theorem encodeSame_eq_spec : ∀ (cs : List CV) (t : Ty), ValidTy t → Spec.Abi.wellTypedSame t cs = true → SmallSame t cs →
    encodeSame t cs = .ok (sw (Spec.Abi.encSame t cs)) :=
  fun cs t hv hw hs => encode_all.2.2 t cs hw hv hs

theorem encodeEach_eq_spec : ∀ (cs : List CV) (ts : List Ty), ValidTys ts → Spec.Abi.wellTypedEach ts cs = true → SmallEach ts cs →
    encodeEach ts cs = .ok (sw (Spec.Abi.encEach ts cs)) :=
  fun cs ts hv hw hs => encode_all.2.1 ts cs hw hv hs

/-- `EncodeABIData` returns exactly the specification bytes -/
theorem encodeData_eq_spec (t : Ty) (v : CV) (hv : ValidTy t) (hw : Spec.Abi.WellTyped t v = true) (hs : Small t v) :
    encodeData t v = .ok (Spec.Abi.enc t v) := by
  simp [encodeData, encode_eq_spec v t hv hw hs]

/-- **Out-of-range integers are rejected, never wrapped.** -/
theorem uint_out_of_range_rejected (info : ElemInfo) (m : Nat) (z : Int) (hc : codecOf info.enc = .uint)
    (h : z < 0 ∨ (2 : Int) ^ m ≤ z) : encodeElem info m (.int z) = .err := by
  rw [encodeElem_uint hc, if_neg (by omega)]

theorem int_out_of_range_rejected (info : ElemInfo) (m : Nat) (z : Int) (hc : codecOf info.enc = .sint)
    (h : z < -(2 : Int) ^ (m - 1) ∨ (2 : Int) ^ (m - 1) ≤ z) : encodeElem info m (.int z) = .err := by
  have hpos : (0 : Int) < 2 ^ (m - 1) := Int.pow_pos (by decide)
  rw [encodeElem_sint hc, if_neg (by rw [checkSignedIntFits_iff]; omega)]

/-- non-vacuity: the table's `uint` row, with a width the parser admits, satisfies `ElemOK` -/
theorem uint256_ok : ∀ info ∈ Gen.AbiTypeTable.table, info.name = "uint" → ElemOK info "256" 256 := by
  intro info hmem hn
  have h := List.mem_map_of_mem (f := fun i => (i.name, codecOf i.enc)) hmem
  rw [table_codecs, hn] at h
  simp at h
  exact .inr (.inl ⟨hn, h, by decide, by decide, by decide⟩)

section inputs
open FFS.Model.EthTypes

/-- **No accepted integer is wrapped, rounded or sign-changed (leaf).** If the integer encoder accepts `z` for a width
    `m ≤ 256` at all, `z` lies in the declared range and the word is the unsigned / two's-complement encoding of
    exactly `z`. -/
theorem encodeElem_int_exact (info : ElemInfo) (m : Nat) (z : Int) (w : Bytes) (dyn : Bool) (hm : m ≤ 256)
    (hc : codecOf info.enc = .uint ∨ (codecOf info.enc = .sint ∧ 8 ≤ m ∧ m % 8 = 0))
    (he : encodeElem info m (.int z) = .ok (w, dyn)) :
    dyn = false ∧
    ((codecOf info.enc = .uint ∧ 0 ≤ z ∧ z < 2 ^ m ∧ w = toBE 32 z.toNat) ∨
     (codecOf info.enc = .sint ∧ -(2 : Int) ^ (m - 1) ≤ z ∧ z < 2 ^ (m - 1) ∧ w = toBE 32 (z % 2 ^ 256).toNat)) := by
  rcases hc with hc | ⟨hc, h8, hmod⟩
  · rw [encodeElem_uint hc] at he
    split at he
    · rename_i hz
      rw [fillBytes_word ((toNat_lt_pow_iff hz.1 m).mpr hz.2) hm] at he
      injection he with he
      injection he with hw hd
      exact ⟨hd.symm, .inl ⟨hc, hz.1, hz.2, hw.symm⟩⟩
    · cases he
  · rw [encodeElem_sint hc] at he
    split at he
    · rename_i hz
      injection he with he
      injection he with hw hd
      have hpos : (0 : Int) < 2 ^ (m - 1) := Int.pow_pos (by decide)
      refine ⟨hd.symm, .inr ⟨hc, ?_, ?_, hw.symm⟩⟩ <;> rcases (checkSignedIntFits_iff z m).mp hz with h | h <;> omega
    · cases he

/-- **An integer input is encoded as exactly the integer it denotes, or rejected** (JSON text or Go value, any integer
    type of the table's integer reader): whenever `walkInput` followed by `encode` succeeds on an integer leaf, the
    input was read as some integer `z` by `getIntegerFromInterface` (which accepts a text only when it denotes exactly
    `z`: `input_text_sound`), `z` is in the range of the declared width, and the word is the encoding of `z`. -/
theorem input_integer_exact (info : ElemInfo) (sfx : String) (m n : Nat) (v : Ext) (cv : CV) (w : Bytes) (dyn : Bool)
    (hr : info.reader = "getIntegerFromInterface") (hm : m ≤ 256)
    (hc : codecOf info.enc = .uint ∨ (codecOf info.enc = .sint ∧ 8 ≤ m ∧ m % 8 = 0))
    (hwalk : walkInput (.elem info sfx m n) v = .ok cv) (henc : encode (.elem info sfx m n) cv = .ok (w, dyn)) :
    ∃ z : Int, getInteger v = .ok z ∧ cv = .int z ∧
      ((codecOf info.enc = .uint ∧ 0 ≤ z ∧ z < 2 ^ m ∧ w = toBE 32 z.toNat) ∨
       (codecOf info.enc = .sint ∧ -(2 : Int) ^ (m - 1) ≤ z ∧ z < 2 ^ (m - 1) ∧ w = toBE 32 (z % 2 ^ 256).toNat)) := by
  rw [walkInput, readElementary, if_pos hr, Outcome.map_eq_ok] at hwalk
  obtain ⟨z, hg, rfl⟩ := hwalk
  rw [encode] at henc
  exact ⟨z, hg, rfl, (encodeElem_int_exact info m z w dyn hm hc henc).2⟩

/-- what `getIntegerFromInterface` accepts from a text (JSON number literal or string): the text is an integer literal
    denoting `z` (`setString0`: decimal / 0x / 0b / 0o forms of `big.Int.SetString(s, 0)`), or it is no integer literal
    and `big.ParseFloat` says it denotes the integer `z`, which `big.Rat` confirms or has no opinion on (`.fail`). -/
theorem input_text_sound (s : String) (fl rat : ExtNum) (z : Int)
    (h : getInteger (.num s fl rat) = .ok z ∨ getInteger (.str s fl rat) = .ok z) :
    setString0 s.toList = some z ∨ (setString0 s.toList = none ∧ fl = .int z ∧ (rat = .int z ∨ rat = .fail)) := by
  rcases h with h | h <;> exact C19.bigint_sound (by simpa [getInteger] using h)

/-- **Non-integral text or JSON numbers for integer types are rejected.** -/
theorem input_fraction_rejected (info : ElemInfo) (sfx : String) (m n : Nat) (s : String) (fl : ExtNum)
    (hr : info.reader = "getIntegerFromInterface") (hs : setString0 s.toList = none) :
    walkInput (.elem info sfx m n) (.num s fl .notInt) = .err ∧ walkInput (.elem info sfx m n) (.str s fl .notInt) = .err := by
  have := C19.bigint_rejects_fraction s.toList fl hs
  simp [walkInput, readElementary, hr, getInteger, this, Outcome.map]

/-- a non-integral Go float is rejected as well -/
theorem input_float_rejected (info : ElemInfo) (sfx : String) (m n : Nat) (z : Int)
    (hr : info.reader = "getIntegerFromInterface") :
    walkInput (.elem info sfx m n) (.float false z) = .err := by
  simp [walkInput, readElementary, hr, getInteger, Outcome.map]

theorem walkSame_cons (t : Ty) (x : Ext) (xs : List Ext) :
    walkSame t (x :: xs) = (walkInput t x).bind fun c => (walkSame t xs).map (c :: ·) := by
  rw [walkSame]
  cases walkInput t x <;> rfl

theorem walkSame_length (t : Ty) : ∀ (xs : List Ext) (cs : List CV), walkSame t xs = .ok cs → cs.length = xs.length
  | [], cs, h => by rw [walkSame] at h; cases h; rfl
  | x :: xs, cs, h => by
    rw [walkSame_cons, Outcome.bind_eq_ok] at h
    obtain ⟨c, _, h⟩ := h
    obtain ⟨cs', hr, rfl⟩ := Outcome.map_eq_ok.mp h
    rw [List.length_cons, List.length_cons, walkSame_length t xs cs' hr]

/-- **Wrong array arity is rejected**: a fixed-size array `T[k]` is accepted only from a slice of exactly `k` elements,
    and the value tree has exactly `k` children. -/
theorem input_arity (t : Ty) (k : Nat) (v : Ext) (cv : CV) (h : walkInput (.farr t k) v = .ok cv) :
    ∃ xs cs, asSlice v = some xs ∧ xs.length = k ∧ cv = .kids cs ∧ cs.length = k := by
  rw [walkInput] at h
  cases hs : asSlice v with
  | none => rw [hs] at h; cases h
  | some xs =>
    rw [hs] at h
    simp only [Outcome.ite_err_eq_ok, Outcome.map_eq_ok, Decidable.not_not] at h
    obtain ⟨hk, cs, hw, rfl⟩ := h
    exact ⟨xs, cs, rfl, hk, rfl, by rw [walkSame_length t xs cs hw, hk]⟩

end inputs

/-- non-vacuity of `encodeData_eq_spec`: `(uint256 a, uint256[] b)` with the value `(5, [1, 2])` meets every hypothesis -/
example : ∀ info ∈ Gen.AbiTypeTable.table, info.name = "uint" →
    ValidTy (.tuple ["a", "b"] [.elem info "256" 256 0, .darr (.elem info "256" 256 0)]) ∧
    Spec.Abi.WellTyped (.tuple ["a", "b"] [.elem info "256" 256 0, .darr (.elem info "256" 256 0)])
      (.kids [.int 5, .kids [.int 1, .int 2]]) = true ∧
    Small (.tuple ["a", "b"] [.elem info "256" 256 0, .darr (.elem info "256" 256 0)]) (.kids [.int 5, .kids [.int 1, .int 2]]) := by
  intro info hmem hn
  have hok : ElemOK info "256" 256 := uint256_ok info hmem hn
  refine ⟨⟨hok, hok, trivial⟩, ?_, ?_⟩
  · simp [Spec.Abi.WellTyped, Spec.Abi.wellTypedEach, Spec.Abi.wellTypedSame, hn]
  · simp [Small, SmallEach, SmallSame, LayoutSmall, Spec.Abi.encEach, Spec.Abi.encSame, Spec.Abi.enc, Spec.Abi.isDynamic,
      Spec.Abi.headsLen, tailLen, Spec.Abi.encElem, Spec.Abi.encUint, Spec.Abi.assemble, Spec.Abi.assembleGo, hn]

end FFS.Props.C02
