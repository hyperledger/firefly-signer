/-
  Property C08 — the filesystem wallet only signs with the key that owns the requested address.
  Model: FFS.Model.FsWallet (sequential; mirrors pkg/fswallet/fswallet.go). The load function (files, passwords,
  metadata, keystore decryption) and the key→address derivation are arbitrary parameters: the safety theorems hold
  whatever key material the file named for an address contains. Besides safety (`CacheInv`): the account list is the
  key set of the file map (`ListInv`, shared argument in Lemmas/Discovery), and a request succeeds when key file and
  password are there (`load_available`, `request_available`).
-/
import FFS.Model.FsWallet
import FFS.Lemmas.Assoc
import FFS.Lemmas.Discovery
namespace FFS.Props.C08
open FFS FFS.Model.FsWallet

/-- the regenerated guard facts: negative extension match returns; derived address compared before caching -/
theorem guards : Gen.FsWalletFacts.extMismatchReturns = true ∧ Gen.FsWalletFacts.addressChecked = true := by decide

/-- **Regenerated tie for "directories are never accounts".** The naming rule itself (`matchFilename`) rejects a directory
    before it looks at the name, and every file that reaches `notifyNewFiles` — from a `Refresh` scan or from the file
    listener — goes through that rule; the model applies the rule to files only (`accounts_exact`). -/
theorem dir_guard : Gen.FsWalletFacts.dirsNeverMatch = true ∧ Gen.FsWalletFacts.notifyAppliesRule = true := by decide

def CacheInv (derive : Bytes → Addr) (st : State) : Prop :=
  ∀ a key, (a, key) ∈ st.cache → derive key = a

theorem init_inv (derive : Bytes → Addr) : CacheInv derive State.init := nofun

/-- `GetWalletFile` returns only a key that derives the requested address — cached or freshly loaded — and
    keeps the invariant. -/
theorem getWalletFile_sound (derive : Bytes → Addr) (st : State) (addr : Addr) (load : String → Outcome Bytes)
    (hinv : CacheInv derive st) :
    CacheInv derive (getWalletFile derive st addr load).1 ∧
    ∀ key, (getWalletFile derive st addr load).2 = .ok key → derive key = addr := by
  unfold getWalletFile
  split
  next key hfind =>
    obtain ⟨ha, hmem⟩ := Assoc.of_find? hfind
    exact ⟨hinv, fun k hk => by cases hk; exact (hinv _ _ hmem).trans ha⟩
  · split
    · exact ⟨hinv, nofun⟩
    · split
      next key _ =>
        split
        · exact ⟨hinv, nofun⟩
        next hne =>
          have heq : derive key = addr := by simpa [guards.2] using hne
          refine ⟨fun a k hmem => ?_, fun k hk => by cases hk; exact heq⟩
          rcases List.mem_cons.mp hmem with h | h
          · cases h; exact heq
          · exact hinv a k h
      · exact ⟨hinv, nofun⟩
      · exact ⟨hinv, nofun⟩

def notifyOne (cfg : Config) (acc : State × List Addr) (f : FileView) : State × List Addr :=
  match matchFilename cfg f with
  | none => acc
  | some addr =>
    match mapLookup acc.1.addressToFileMap addr with
    | some existing =>
      if existing != f.name then ({ acc.1 with addressToFileMap := mapSet acc.1.addressToFileMap addr f.name }, acc.2) else acc
    | none =>
      ({ acc.1 with addressToFileMap := mapSet acc.1.addressToFileMap addr f.name, addressList := acc.1.addressList ++ [addr] },
       acc.2 ++ [addr])

theorem notifyNewFiles_eq (cfg : Config) (st : State) (files : List FileView) :
    notifyNewFiles cfg st files = files.foldl (notifyOne cfg) (st, []) := by
  unfold notifyNewFiles
  congr 1

theorem notifyOne_cache (cfg : Config) (acc : State × List Addr) (f : FileView) :
    (notifyOne cfg acc f).1.cache = acc.1.cache := by
  unfold notifyOne
  split
  · rfl
  · split
    · split <;> rfl
    · rfl

theorem notifyNewFiles_cache (cfg : Config) (st : State) (files : List FileView) :
    (notifyNewFiles cfg st files).1.cache = st.cache := by
  rw [notifyNewFiles_eq]
  exact List.foldlRecOn files (notifyOne cfg) (b := (st, [])) (motive := fun acc => acc.1.cache = st.cache) rfl
    fun acc h f _ => (notifyOne_cache cfg acc f).trans h

/-- discovery and eviction never add cache entries -/
theorem step_inv (cfg : Config) (derive : Bytes → Addr) (st : State) (op : Op) (hinv : CacheInv derive st) :
    CacheInv derive (step cfg derive st op) := by
  cases op with
  | notify files => exact fun a key hmem => hinv a key (notifyNewFiles_cache cfg st files ▸ hmem)
  | get addr load => exact (getWalletFile_sound derive st addr load hinv).1
  | evict keep => exact fun a key hmem => hinv a key (List.mem_filter.mp hmem).1

theorem run_inv (cfg : Config) (derive : Bytes → Addr) (ops : List Op) {st : State} (hinv : CacheInv derive st) :
    CacheInv derive (ops.foldl (step cfg derive) st) :=
  List.foldlRecOn ops _ hinv fun st h op _ => step_inv cfg derive st op h

/-- **Safety over every history.** After any sequence of discovery, requests (with arbitrary file contents) and
    cache evictions, a request for `addr` that succeeds returns a key deriving exactly `addr`. -/
theorem sign_only_owner (cfg : Config) (derive : Bytes → Addr) (ops : List Op) (addr : Addr)
    (load : String → Outcome Bytes) (key : Bytes)
    (h : (getWalletFile derive (ops.foldl (step cfg derive) State.init) addr load).2 = .ok key) :
    derive key = addr :=
  (getWalletFile_sound derive _ addr load (run_inv cfg derive ops (init_inv derive))).2 key h

/-- `Discovery.Keys (mapLookup st.addressToFileMap) st.addressList` written out; the proofs below use it as that -/
def ListInv (st : State) : Prop :=
  st.addressList.Nodup ∧ ∀ a, a ∈ st.addressList ↔ (mapLookup st.addressToFileMap a).isSome = true

theorem mapLookup_mapSet (m : List (Addr × String)) (a : Addr) (v : String) (a' : Addr) :
    mapLookup (mapSet m a v) a' = if a = a' then some v else mapLookup m a' :=
  Assoc.lookup_set m a a' v

/-- One file of a pass that started with the list `k₀`: what has been appended to the list since is what is reported
    as new, and the file's address is listed afterwards. -/
theorem notifyOne_spec (cfg : Config) (k₀ : List Addr) (acc : State × List Addr) (f : FileView)
    (h : ListInv acc.1 ∧ acc.1.addressList = k₀ ++ acc.2) :
    (ListInv (notifyOne cfg acc f).1 ∧ (notifyOne cfg acc f).1.addressList = k₀ ++ (notifyOne cfg acc f).2) ∧
      ∀ a, a ∈ (notifyOne cfg acc f).1.addressList ↔ a ∈ acc.1.addressList ∨ matchFilename cfg f = some a := by
  unfold notifyOne
  cases matchFilename cfg f with
  | none => exact ⟨h, by simp⟩
  | some addr =>
    simp only []
    cases hl : mapLookup acc.1.addressToFileMap addr with
    | some existing =>
      have hin : ∀ a, a ∈ acc.1.addressList ↔ a ∈ acc.1.addressList ∨ some addr = some a :=
        fun a => (or_iff_left_of_imp fun e => Option.some.inj e ▸ (h.1.2 addr).mpr (by simp [hl])).symm
      simp only []
      split
      · exact ⟨⟨Discovery.Keys.update_old h.1 (by simp [hl]) (mapLookup_mapSet _ addr f.name), h.2⟩, hin⟩
      · exact ⟨h, hin⟩
    | none =>
      exact ⟨⟨Discovery.Keys.update_new h.1 hl (mapLookup_mapSet _ addr f.name), by simp [h.2]⟩, by simp [eq_comm]⟩

theorem notifyNewFiles_spec (cfg : Config) (st : State) (files : List FileView) (h : ListInv st) :
    let r := notifyNewFiles cfg st files
    ListInv r.1 ∧ r.1.addressList = st.addressList ++ r.2 ∧
      ∀ a, a ∈ r.1.addressList ↔ a ∈ st.addressList ∨ ∃ f ∈ files, matchFilename cfg f = some a := by
  rw [notifyNewFiles_eq]
  exact and_assoc.mp (Discovery.foldl_grow (notifyOne cfg) _ (·.1.addressList) _ (notifyOne_spec cfg st.addressList)
    files (st, []) ⟨h, (List.append_nil _).symm⟩)

/-- **The account list is exactly the set of addresses whose file names match the naming rule, without duplicates**:
    after a discovery pass over `files` from the empty wallet, an address is listed iff some file of the pass
    matches to it, and none is listed twice. (`matchFilename` is the configured rule: extension with / without 0x,
    or the regular expression's capture, directories never.) -/
theorem accounts_exact (cfg : Config) (files : List FileView) :
    let st := (notifyNewFiles cfg State.init files).1
    st.addressList.Nodup ∧ ∀ a, a ∈ st.addressList ↔ ∃ f ∈ files, matchFilename cfg f = some a := by
  obtain ⟨hI, -, hm⟩ :=
    notifyNewFiles_spec cfg State.init files ⟨List.nodup_nil, by simp [State.init, mapLookup]⟩
  exact ⟨hI.1, fun a => (hm a).trans (or_iff_right List.not_mem_nil)⟩

/-- later passes only add: nothing listed is dropped, and the list stays duplicate-free -/
theorem accounts_monotone (cfg : Config) (st : State) (files : List FileView) (h : ListInv st) :
    ListInv (notifyNewFiles cfg st files).1 ∧ ∀ a, a ∈ st.addressList → a ∈ (notifyNewFiles cfg st files).1.addressList := by
  obtain ⟨hI, -, hm⟩ := notifyNewFiles_spec cfg st files h
  exact ⟨hI, fun a ha => (hm a).mpr (.inl ha)⟩

section availability
open FFS.Model.Keystore

/-- the password `loadWalletFile` ends up using: the per-key / metadata-referenced file (trimmed when configured) when
    it can be read, else the default password file -/
def usablePassword (cfg : Config) (fs : Fs) (passwordFilename : String) : Option Bytes :=
  match (if passwordFilename != "" then
      (fsRead fs passwordFilename).map fun p => if cfg.passwordTrimSpace then trimSpace p else p else none) with
  | some p => some p
  | none => if cfg.defaultPasswordFile == "" then none else fsRead fs cfg.defaultPasswordFile

/-- **Availability of loading.** If the file named for the address exists, the configured rule resolves it to a key
    file that exists, a usable password is present (per-key file, metadata-referenced file or default file, trimmed
    when so configured) and the key file decrypts under it, then loading succeeds with that key. -/
theorem load_available (cfg : Config) (fs : Fs) (ks : Bytes → KsFile) (metaOf : String → MetaResult)
    (addr : Addr) (primary : String) (b kb password key : Bytes) (kf pf : String)
    (hprim : fsRead fs primary = some b)
    (hfiles : keyAndPasswordFiles cfg addr primary (metaOf primary) = some (kf, pf))
    (hkey : (if kf != primary then fsRead fs kf else some b) = some kb)
    (hpw : usablePassword cfg fs pf = some password)
    (hread : readWalletFile (ks kb) password = .ok key) :
    loadWalletFile cfg fs ks metaOf addr primary = .ok key := by
  simp only [loadWalletFile, hprim, hfiles, hkey]
  -- what is left computes the password exactly as `usablePassword` does
  show (match usablePassword cfg fs pf with | none => _ | some password => _) = _
  simp only [hpw, hread]

/-- **Availability of a request.** For an address the wallet has discovered (it is in the file map) and has not
    cached, a request returns the key whenever loading is available as above and the key derives the address. -/
theorem request_available (derive : Bytes → Addr) (st : State) (addr : Addr) (load : String → Outcome Bytes)
    (primary : String) (key : Bytes)
    (hmiss : st.cache.find? (·.1 == addr) = none)
    (hmap : mapLookup st.addressToFileMap addr = some primary)
    (hload : load primary = .ok key) (hown : derive key = addr) :
    (getWalletFile derive st addr load).2 = .ok key := by
  unfold getWalletFile
  rw [hmiss]
  simp only [hmap, hload]
  simp [hown]

end availability

def exCfg : Config := ⟨"/k", ".key.json", false, false, ".pwd", "", true, "", "auto"⟩
def exAddr : Addr := List.replicate 19 0 ++ [1]
def exFile : FileView := { name := "0000000000000000000000000000000000000001.key.json", isDir := false, regexCapture := none }
-- the one costly evaluation (`String.endsWith` and the hex decoding, in the kernel); the examples share it
theorem exMatch : matchFilename exCfg exFile = some exAddr := by decide +kernel

theorem exState : [Op.notify [exFile]].foldl (step exCfg (fun k => k)) State.init =
    ⟨[(exAddr, exFile.name)], [exAddr], []⟩ := by
  rw [List.foldl_cons, List.foldl_nil, step, notifyNewFiles_eq, List.foldl_cons, List.foldl_nil, notifyOne, exMatch]
  rfl

/-- non-vacuity of `sign_only_owner`: after discovering one matching file, a request whose file holds a key deriving
    the address succeeds (and one whose file holds another key does not) -/
example : ((getWalletFile (fun k => k) ([Op.notify [exFile]].foldl (step exCfg (fun k => k)) State.init) exAddr
    (fun _ => .ok exAddr)).2 == .ok exAddr) = true := by rw [exState]; decide
example : ((getWalletFile (fun k => k) ([Op.notify [exFile]].foldl (step exCfg (fun k => k)) State.init) exAddr
    (fun _ => .ok [7])).2 == .err) = true := by rw [exState]; decide

end FFS.Props.C08
