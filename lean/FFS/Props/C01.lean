/-
  Property C01 — signed transactions are the specification wire format and recover to the signer.
  Model: FFS.Model.Tx (mirrors pkg/ethsigner/transaction.go). Spec: FFS.Spec.Tx (EIP-155 / EIP-1559 / EIP-2718).
  First the bytes that are signed and sent are shown to be the specification's (`build*_eq_spec`, `payload_*_eq_spec`,
  `v_forms`, `finalize_eip155_items`). Then `recoverRaw_signed1559` and `recoverRaw_signedLegacy` say what
  RecoverRawTransaction does with any well-formed signed list, whatever R, S and V < 2^63 it carries (the code reads V
  through `Int64()`): the RLP round trip (C06),
  then the validated path of recovery (C10), leave the curve recovery over the signing payload of its fields. The
  `recover_sign_*` theorems are the instances where V, R, S come from Sign (C05), for every transaction meeting `Fits`,
  every key in [1, n), every chain id in [0, 2^53] and every lawful curve.
-/
import FFS.Lemmas.Tx
import FFS.Props.C10
namespace FFS.Props.C01
open FFS FFS.Model.Tx FFS.Model.Rlp FFS.Model.Secp FFS.Gen.TxConsts

/-- the type byte is the EIP-2718 / EIP-1559 one -/
theorem type_byte : type1559 = 2 := by decide

/-- field ordering and integer wrapping of the legacy list are the specification's -/
theorem buildLegacy_eq_spec (t : Tx) : buildLegacy t = Spec.Tx.legacyItems (fields t) := by
  cases t with
  | mk nonce gasPrice tip feeCap gasLimit to value data =>
    cases to <;> rfl

/-- field ordering of the EIP-1559 list (chain id first, empty access list last) is the specification's -/
theorem build1559_eq_spec (t : Tx) (cid : Int) :
    build1559 t cid = Spec.Tx.items1559 (fields t) cid.natAbs (.list []) := by
  cases t with
  | mk nonce gasPrice tip feeCap gasLimit to value data =>
    cases to <;> rfl

/-- The signature payloads equal the specification preimages (sizes that fit Go's int64 lengths). -/
theorem payload_legacy_eq_spec (t : Tx)
    (hs : C06.Small (2 ^ 64) (.list (Spec.Tx.legacyItems (fields t)))) :
    payloadLegacyOriginal t = Spec.Tx.preimageLegacy (fields t) := by
  unfold payloadLegacyOriginal Spec.Tx.preimageLegacy
  rw [buildLegacy_eq_spec]
  exact C06.enc_eq_spec _ hs

theorem payload_eip155_eq_spec (t : Tx) (cid : Int)
    (hs : C06.Small (2 ^ 64) (.list (Spec.Tx.legacyItems (fields t) ++
      [Spec.Tx.scalar cid.natAbs, Spec.Tx.scalar 0, Spec.Tx.scalar 0]))) :
    payloadLegacyEIP155 t cid = Spec.Tx.preimage155 (fields t) cid.natAbs := by
  unfold payloadLegacyEIP155 Spec.Tx.preimage155 addEIP155
  rw [buildLegacy_eq_spec]
  exact C06.enc_eq_spec _ hs

theorem payload_eip1559_eq_spec (t : Tx) (cid : Int)
    (hs : C06.Small (2 ^ 64) (.list (Spec.Tx.items1559 (fields t) cid.natAbs (.list [])))) :
    payloadEIP1559 t cid = Spec.Tx.preimage1559 (fields t) cid.natAbs := by
  unfold payloadEIP1559 Spec.Tx.preimage1559
  rw [build1559_eq_spec, C06.enc_eq_spec _ hs]
  rfl

/-- The automatic mode is EIP-1559 exactly when a fee-cap field is positive, else EIP-155. -/
theorem payload_auto (t : Tx) (cid : Int) :
    payloadAuto t cid =
      if (fields t).tip > 0 ∨ (fields t).feeCap > 0 then payloadEIP1559 t cid else payloadLegacyEIP155 t cid := by
  unfold payloadAuto wants1559 fields
  by_cases h1 : big t.tip > 0 <;> by_cases h2 : big t.feeCap > 0 <;> simp [h1, h2]

/-- V in the signed EIP-155 list is 35 + 2·chainId + parity; in the typed transaction it is the parity. -/
theorem v_forms (v cid : Int) (hv : v = 27 ∨ v = 28) :
    updateEIP155 v cid = 35 + 2 * cid + (v - 27) ∧ updateEIP2930 v = v - 27 :=
  C05.update_forms v cid hv

/-- The signed EIP-155 list is the six transaction fields followed by V, R, S (the chainId,0,0 hash
    values are dropped again). -/
theorem finalize_eip155_items (t : Tx) (cid v r s : Int) :
    finalize .eip155 t cid v r s =
      enc (.list (Spec.Tx.legacyItems (fields t) ++
        [wrapInt (updateEIP155 v cid).natAbs, wrapInt r.natAbs, wrapInt s.natAbs])) := by
  simp only [finalize, addEIP155, addSignature, buildLegacy_eq_spec]
  rfl

theorem isStr_wrapInt (n : Nat) : isStr (wrapInt n) = true := rfl

theorem bigInt64_small (n : Nat) (h : n < 2 ^ 63) : bigInt64 (n : Int) = n :=
  C05.bigInt64_of_isInt64 (by simp only [isInt64, Bool.and_eq_true, decide_eq_true_eq]; omega)

theorem recoverCommon_minBE {C : Curve} {tx : Tx} {msg a : Bytes} {cid v : Int} {r s : Nat}
    (h : Model.Secp.recover C { V := some v, R := some r, S := some s } msg cid = .ok a) :
    recoverCommon C tx msg cid v (minBE r) (minBE s) = .ok (a, tx, msg) := by
  rw [recoverCommon_eq, fromBE_minBE, fromBE_minBE, h]
  rfl

/-- size bounds every real Ethereum transaction meets: integer fields are uint256, `to` is 20 bytes, data < 1 GiB -/
structure Fits (t : Tx) : Prop where
  nonce : big t.nonce < 2 ^ 256
  gasPrice : big t.gasPrice < 2 ^ 256
  tip : big t.tip < 2 ^ 256
  feeCap : big t.feeCap < 2 ^ 256
  gasLimit : big t.gasLimit < 2 ^ 256
  value : big t.value < 2 ^ 256
  to : ∀ a, t.to = some a → a.length = 20
  data : t.data.length < 2 ^ 30

/-- an item that takes at most 33 bytes encoded: an integer field, the address, the empty access list -/
def Word (x : Item) : Prop := C06.Small (2 ^ 31) x ∧ (Spec.Rlp.rlp x).length ≤ 33

def Words : List Item → Prop
  | [] => True
  | x :: xs => Word x ∧ Words xs

theorem word_str (d : Bytes) (h : d.length ≤ 32) : Word (.str d) :=
  ⟨by show d.length < 2 ^ 31; omega, by have := Rb_length_le d 0 (Or.inl (by omega)); rw [Spec.Rlp.rlp]; omega⟩

theorem word_wrapInt {n : Nat} (h : n < 2 ^ 256) : Word (wrapInt n) :=
  word_str _ (minBE_length_le (by rw [pow256]; exact h))

theorem word_wrapAddress {to : Option Bytes} (hto : ∀ a, to = some a → a.length = 20) : Word (wrapAddress to) := by
  cases to with
  | none => exact word_str [] (by simp)
  | some a => exact word_str a (by rw [hto a rfl]; decide)

theorem word_nil : Word (.list []) := by
  exact ⟨⟨by decide, trivial⟩, by decide⟩

theorem smallL_words (A : List Item) (hA : Words A) (T : List Item) (hT : C06.SmallL (2 ^ 31) T) :
    C06.SmallL (2 ^ 31) (A ++ T) ∧ (Spec.Rlp.rlpSeq (A ++ T)).length ≤ 33 * A.length + (Spec.Rlp.rlpSeq T).length := by
  induction A with
  | nil => exact ⟨hT, by simp⟩
  | cons x A ih =>
    obtain ⟨hs, hl⟩ := ih hA.2
    exact ⟨⟨hA.1.1, hs⟩, by
      have := hA.1.2
      rw [List.cons_append, Spec.Rlp.rlpSeq, List.length_append, List.length_cons]; omega⟩

theorem small_words (A B : List Item) (d : Bytes) (hA : Words A) (hB : Words B) (hd : d.length < 2 ^ 30)
    (hn : A.length + B.length ≤ 11) : C06.Small (2 ^ 31) (.list (A ++ .str d :: B)) := by
  obtain ⟨sB, lB⟩ := smallL_words B hB [] trivial
  rw [List.append_nil] at sB lB
  obtain ⟨sA, lA⟩ := smallL_words A hA (.str d :: B) ⟨by show d.length < 2 ^ 31; omega, sB⟩
  have := Rb_length_le d 4 (Or.inr (by rw [pow256]; omega))
  rw [Spec.Rlp.rlpSeq, List.length_append, Spec.Rlp.rlp] at lA
  exact ⟨by simp only [Spec.Rlp.rlpSeq, List.length_nil] at lB; omega, sA⟩

/-- what recovery reads back: every integer field present (nil was signed as 0), no legacy gas price -/
def norm1559 (t : Tx) : Tx :=
  { nonce := some (big t.nonce), tip := some (big t.tip), feeCap := some (big t.feeCap), gasLimit := some (big t.gasLimit),
    to := t.to, value := some (big t.value), data := t.data, gasPrice := none }

def signed1559 (t : Tx) (cid : Int) (p r s : Nat) : List Item :=
  [wrapInt cid.natAbs, wrapInt (big t.nonce), wrapInt (big t.tip), wrapInt (big t.feeCap), wrapInt (big t.gasLimit),
   wrapAddress t.to, wrapInt (big t.value), .str t.data, .list [], wrapInt p, wrapInt r, wrapInt s]

theorem signed1559_eq (t : Tx) (cid : Int) (p r s : Nat) :
    build1559 t cid ++ [wrapInt p, wrapInt r, wrapInt s] = signed1559 t cid p r s := rfl

theorem small_signed1559 (t : Tx) (cid : Int) (p r s : Nat) (hf : Fits t) (hc : cid.natAbs < 2 ^ 256)
    (hp : p < 2 ^ 256) (hr : r < 2 ^ 256) (hs : s < 2 ^ 256) :
    C06.Small (2 ^ 31) (.list (signed1559 t cid p r s)) :=
  small_words [_, _, _, _, _, _, _] [_, _, _, _] t.data
    ⟨word_wrapInt hc, word_wrapInt hf.nonce, word_wrapInt hf.tip, word_wrapInt hf.feeCap, word_wrapInt hf.gasLimit,
      word_wrapAddress hf.to, word_wrapInt hf.value, trivial⟩
    ⟨word_nil, word_wrapInt hp, word_wrapInt hr, word_wrapInt hs, trivial⟩ hf.data (Nat.le_refl 11)

theorem validate1559_signed (t : Tx) (cid : Int) (p r s : Nat) (hto : isAddrOrEmpty (wrapAddress t.to) = true) :
    validate1559 (signed1559 t cid p r s) min1559Signed = .ok true := by
  simp only [signed1559, validate1559, min1559Signed, e1559Validates, if_true, validTxScalars, e1559Ints, e1559IntsSigned, e1559Bytes,
    e1559BytesSigned, e1559To, ge_iff_le, Nat.le_refl]
  simp [isCanonInt_wrapInt, hto, isStr_wrapInt]
  rfl

theorem decode1559_signed (t : Tx) (cid : Int) (p r s : Nat) (hc : 0 ≤ cid) (hto : ∀ a, t.to = some a → a.length = 20)
    (hsm : C06.Small (2 ^ 31) (.list (signed1559 t cid p r s))) :
    decode1559 (UInt8.ofNat type1559 :: enc (.list (signed1559 t cid p r s))) cid min1559Signed =
      .ok (signed1559 t cid p r s, norm1559 t) := by
  have hchain : chainIdMatches (signed1559 t cid p r s) cid = true := by
    simp [chainIdMatches, signed1559, itemInt_wrapInt, e1559ChainIdExact]; omega
  rw [C10.decode1559_of_list (by simpa using C06.decode_enc_append _ hsm []) (by simp [signed1559, min1559Signed])
    hchain (validate1559_signed t cid p r s (isAddrOrEmpty_wrapAddress hto))]
  simp [C10.tx1559Of, signed1559, itemInt_wrapInt, norm1559, itemBytes, itemAddr_wrapAddress hto]

/-- **Recovery of any well-formed signed EIP-1559 list** (whatever R, S and parity below 2^63 it carries) is the curve recovery
    over the EIP-1559 signing payload of its fields. -/
theorem recoverRaw_signed1559 (C : Curve) (t : Tx) (cid : Int) (p r s : Nat) (hc : 0 ≤ cid)
    (hto : ∀ a, t.to = some a → a.length = 20) (hsm : C06.Small (2 ^ 31) (.list (signed1559 t cid p r s)))
    (hp : p < 2 ^ 63) :
    recoverRaw C (UInt8.ofNat type1559 :: enc (.list (signed1559 t cid p r s))) cid =
      recoverCommon C (norm1559 t) (payloadEIP1559 t cid) cid p (minBE r) (minBE s) := by
  have hb0 : (UInt8.ofNat type1559).toNat = 2 := by decide
  unfold recoverRaw
  simp only [hb0, show rawIsLegacy 2 = false by decide, show rawIs1559 2 = true by decide, Bool.false_eq_true,
    if_false, if_true]
  unfold recover1559
  rw [decode1559_signed t cid p r s hc hto hsm]
  simp only []
  rw [show itemInt ((signed1559 t cid p r s).getD 9 (.list [])) = some p from itemInt_wrapInt p]
  simp only []
  rw [bigInt64_small p hp]
  rfl

theorem signTx_of_sign {C : Curve} {mode : Mode} {t : Tx} {k : Nat} {cid : Int} {v r s : Int}
    (h : sign C k (payload mode t cid) = { V := some v, R := some r, S := some s }) :
    signTx C mode t k cid = finalize mode t cid v r s := by
  simp only [signTx, h, Option.getD_some]

/-- **An EIP-1559 transaction signed by key `k` recovers to `k`'s address, with the fields that were signed and the
    payload that was signed** — for every transaction meeting `Fits`, key, chain id (0 ≤ id ≤ 2^53) and lawful curve. -/
theorem recover_sign_1559 (C : Curve) (hC : C.Lawful) (k : Nat) (hk : 1 ≤ k ∧ k < C.n) (t : Tx) (cid : Int)
    (hc : 0 ≤ cid ∧ cid ≤ 2 ^ 53) (hf : Fits t) :
    recoverRaw C (signTx C .eip1559 t k cid) cid = .ok (keyAddress C k, norm1559 t, payloadEIP1559 t cid) := by
  obtain ⟨v, r, s, hsign, hv, hr, hs, hrec⟩ := C05.sign_recovers C hC k hk (payloadEIP1559 t cid)
  have hfin : finalize .eip1559 t cid v r s = UInt8.ofNat type1559 :: enc (.list (signed1559 t cid (v - 27) r s)) := by
    simp only [finalize, (v_forms v cid (by omega)).2, addSignature, show ((v : Int) - 27).natAbs = v - 27 by omega,
      Int.natAbs_natCast, signed1559_eq]
  rw [signTx_of_sign (mode := .eip1559) hsign, hfin,
    recoverRaw_signed1559 C t cid _ r s hc.1 hf.to
      (small_signed1559 t cid _ r s hf
        (Nat.lt_of_le_of_lt (show cid.natAbs ≤ 2 ^ 53 by omega) (by decide)) (by omega) hr hs) (by omega)]
  exact recoverCommon_minBE (hrec cid).2

/-- what legacy recovery reads back -/
def normLegacy (t : Tx) : Tx :=
  { nonce := some (big t.nonce), gasPrice := some (big t.gasPrice), gasLimit := some (big t.gasLimit),
    to := t.to, value := some (big t.value), data := t.data, tip := none, feeCap := none }

def signedLegacy (t : Tx) (V r s : Nat) : List Item :=
  [wrapInt (big t.nonce), wrapInt (big t.gasPrice), wrapInt (big t.gasLimit), wrapAddress t.to, wrapInt (big t.value),
   .str t.data, wrapInt V, wrapInt r, wrapInt s]

theorem signedLegacy_eq (t : Tx) (cid : Int) (V r s : Nat) :
    (addEIP155 (buildLegacy t) cid).take 6 ++ [wrapInt V, wrapInt r, wrapInt s] = signedLegacy t V r s := rfl

theorem signedLegacyOrig_eq (t : Tx) (V r s : Nat) :
    buildLegacy t ++ [wrapInt V, wrapInt r, wrapInt s] = signedLegacy t V r s := rfl

theorem small_signedLegacy (t : Tx) (V r s : Nat) (hf : Fits t)
    (hV : V < 2 ^ 256) (hr : r < 2 ^ 256) (hs : s < 2 ^ 256) :
    C06.Small (2 ^ 31) (.list (signedLegacy t V r s)) :=
  small_words [_, _, _, _, _] [_, _, _] t.data
    ⟨word_wrapInt hf.nonce, word_wrapInt hf.gasPrice, word_wrapInt hf.gasLimit, word_wrapAddress hf.to,
      word_wrapInt hf.value, trivial⟩
    ⟨word_wrapInt hV, word_wrapInt hr, word_wrapInt hs, trivial⟩ hf.data (by simp)

theorem rlpSeq_length_ge : ∀ (xs : List Item), xs.length ≤ (Spec.Rlp.rlpSeq xs).length
  | [] => Nat.le_refl _
  | x :: xs => by
    have := rlp_length_pos x
    have := rlpSeq_length_ge xs
    rw [Spec.Rlp.rlpSeq, List.length_append, List.length_cons]; omega

theorem minBE_len_pos (n : Nat) (h : n ≠ 0) : 0 < (minBE n).length := minBE_length_pos h

/-- the first byte of the encoding of a list of at least seven items (≥ 0xc7) selects the legacy branch -/
theorem recoverRaw_list (C : Curve) (xs : List Item) (h7 : 7 ≤ xs.length) (hsm : C06.Small (2 ^ 31) (.list xs))
    (cid : Int) : recoverRaw C (enc (.list xs)) cid = recoverLegacy C (enc (.list xs)) cid := by
  have hlen := rlpSeq_length_ge xs
  have hsz : (Spec.Rlp.rlpSeq xs).length < 2 ^ 31 := hsm.1
  have hhead : ∃ b0 rest, enc (.list xs) = b0 :: rest ∧ rawIsLegacy b0.toNat = true := by
    rw [C06.enc_eq_spec _ (C06.small_mono (by decide) _ hsm), Spec.Rlp.rlp, Rl_eq]
    unfold pre
    split
    · refine ⟨_, _, rfl, ?_⟩
      simp [rawIsLegacy, UInt8.toNat_ofNat']; omega
    · have hle : (minBE (Spec.Rlp.rlpSeq xs).length).length ≤ 4 := minBE_length_le (by omega)
      refine ⟨_, _, rfl, ?_⟩
      simp [rawIsLegacy, UInt8.toNat_ofNat']; omega
  obtain ⟨b0, rest, e, hleg⟩ := hhead
  unfold recoverRaw
  rw [e]
  simp only [hleg, if_true]

theorem validateLegacy_signed (t : Tx) (V r s : Nat) (hto : isAddrOrEmpty (wrapAddress t.to) = true) :
    validateLegacy (signedLegacy t V r s) = .ok true := by
  simp only [signedLegacy, validateLegacy, legacyValidates, if_true, validTxScalars, legacyInts, legacyTo, legacyBytes]
  simp [isCanonInt_wrapInt, hto, isStr_wrapInt]
  rfl

/-- **Recovery of any well-formed signed legacy list**: with V = 27/28 the curve recovery over the original legacy
    payload of its fields; with any other V below 2^63, over the EIP-155 payload, after V is brought back to 27/28. -/
theorem recoverRaw_signedLegacy (C : Curve) (t : Tx) (V r s : Nat) (cid : Int)
    (hto : ∀ a, t.to = some a → a.length = 20) (hsm : C06.Small (2 ^ 31) (.list (signedLegacy t V r s)))
    (hV : V < 2 ^ 63) :
    recoverRaw C (enc (.list (signedLegacy t V r s))) cid =
      if (V : Int) ≠ 27 ∧ (V : Int) ≠ 28 then
        if wrap64 (v155ToLegacy V cid) ≠ 27 ∧ wrap64 (v155ToLegacy V cid) ≠ 28 then .err
        else recoverCommon C (normLegacy t) (payloadLegacyEIP155 t cid) cid (wrap64 (v155ToLegacy V cid))
          (minBE r) (minBE s)
      else recoverCommon C (normLegacy t) (payloadLegacyOriginal t) cid V (minBE r) (minBE s) := by
  have hdec : Decode (enc (.list (signedLegacy t V r s))) =
      .ok (some (.list (signedLegacy t V r s)), (enc (.list (signedLegacy t V r s))).length) := by
    simpa using C06.decode_enc_append _ hsm []
  rw [recoverRaw_list C _ (by simp [signedLegacy]) hsm]
  rw [C10.recoverLegacy_of_list hdec (by simp [signedLegacy])
    (validateLegacy_signed t V r s (isAddrOrEmpty_wrapAddress hto)) (itemInt_wrapInt V), C10.legacyTail,
    bigInt64_small V hV,
    show C10.legacyTxOf (signedLegacy t V r s) = normLegacy t by
      simp [C10.legacyTxOf, signedLegacy, itemInt_wrapInt, normLegacy, itemBytes, itemAddr_wrapAddress hto]]
  simp only [vNotLegacy_iff]
  rfl

/-- **A legacy EIP-155 transaction signed by key `k` recovers to `k`'s address, with the fields and the payload that
    were signed** — every transaction meeting `Fits`, key, chain id in [0, 2^53], lawful curve. -/
theorem recover_sign_eip155 (C : Curve) (hC : C.Lawful) (k : Nat) (hk : 1 ≤ k ∧ k < C.n) (t : Tx) (cid : Int)
    (hc : 0 ≤ cid ∧ cid ≤ 2 ^ 53) (hf : Fits t) :
    recoverRaw C (signTx C .eip155 t k cid) cid = .ok (keyAddress C k, normLegacy t, payloadLegacyEIP155 t cid) := by
  obtain ⟨v, r, s, hsign, hv, hr, hs, hrec⟩ := C05.sign_recovers C hC k hk (payloadLegacyEIP155 t cid)
  obtain ⟨V, hVd⟩ : ∃ V : Nat, (V : Int) = 35 + 2 * cid + ((v : Int) - 27) := ⟨(35 + 2 * cid + ((v : Int) - 27)).toNat, by omega⟩
  have hfin : finalize .eip155 t cid v r s = enc (.list (signedLegacy t V r s)) := by
    simp only [finalize, (v_forms v cid (by omega)).1, addSignature, ← hVd, Int.natAbs_natCast, signedLegacy_eq]
  rw [signTx_of_sign (mode := .eip155) hsign, hfin,
    recoverRaw_signedLegacy C t V r s cid hf.to
      (small_signedLegacy t V r s hf (Nat.lt_trans (show V < 2 ^ 63 by omega) (by decide)) hr hs) (by omega)]
  have hback : wrap64 (v155ToLegacy V cid) = v := by
    rw [hVd, v155ToLegacy]; unfold wrap64; omega
  rw [if_pos (by omega), hback, if_neg (by omega)]
  exact recoverCommon_minBE (hrec cid).1

/-- **An original-style legacy transaction (V = 27/28, no chain id in the preimage) signed by key `k` recovers to
    `k`'s address, with the fields and the payload that were signed** — every transaction meeting `Fits`, key, lawful
    curve, and whatever chain id recovery is asked to use. -/
theorem recover_sign_legacyOriginal_anyChain (C : Curve) (hC : C.Lawful) (k : Nat) (hk : 1 ≤ k ∧ k < C.n) (t : Tx)
    (cid : Int) (hf : Fits t) :
    recoverRaw C (signTx C .legacyOriginal t k cid) cid =
      .ok (keyAddress C k, normLegacy t, payloadLegacyOriginal t) := by
  obtain ⟨v, r, s, hsign, hv, hr, hs, hrec⟩ := C05.sign_recovers C hC k hk (payloadLegacyOriginal t)
  have hfin : finalize .legacyOriginal t cid v r s = enc (.list (signedLegacy t v r s)) := by
    simp only [finalize, addSignature, Int.natAbs_natCast, signedLegacyOrig_eq]
  rw [signTx_of_sign (mode := .legacyOriginal) hsign, hfin,
    recoverRaw_signedLegacy C t v r s cid hf.to
      (small_signedLegacy t v r s hf (Nat.lt_trans (show v < 2 ^ 63 by omega) (by decide)) hr hs) (by omega),
    if_neg (by omega)]
  exact recoverCommon_minBE (hrec cid).1

/-- The same with the chain id in [0, 2^53], as the other modes have it. -/
theorem recover_sign_legacyOriginal (C : Curve) (hC : C.Lawful) (k : Nat) (hk : 1 ≤ k ∧ k < C.n) (t : Tx) (cid : Int)
    (hc : 0 ≤ cid ∧ cid ≤ 2 ^ 53) (hf : Fits t) :
    recoverRaw C (signTx C .legacyOriginal t k cid) cid =
      .ok (keyAddress C k, normLegacy t, payloadLegacyOriginal t) :=
  recover_sign_legacyOriginal_anyChain C hC k hk t cid hf

/-- every signing mode at once: what `RecoverRawTransaction` returns for the output of `Sign*` -/
def normOf (mode : Mode) (t : Tx) : Tx :=
  match mode with
  | .legacyOriginal => normLegacy t
  | .eip155 => normLegacy t
  | .eip1559 => norm1559 t
  | .auto => if wants1559 t then norm1559 t else normLegacy t

/-- what recovery reads back from an automatically signed transaction -/
def normAuto (t : Tx) : Tx := if wants1559 t then norm1559 t else normLegacy t

theorem signTx_auto (C : Curve) (t : Tx) (k : Nat) (cid : Int) :
    signTx C .auto t k cid = if wants1559 t then signTx C .eip1559 t k cid else signTx C .eip155 t k cid := by
  unfold signTx
  by_cases h : wants1559 t = true
  · simp only [h, if_true, payload, payloadAuto, finalize]
  · have h' : wants1559 t = false := by simpa using h
    simp only [h', Bool.false_eq_true, if_false, payload, payloadAuto, finalize]

/-- **`Sign` (automatic choice) followed by `RecoverRawTransaction` with the same chain id returns the key's
    address, the signed field values and the signing payload** — EIP-1559 when a fee-market field is positive,
    EIP-155 otherwise. -/
theorem recover_sign_auto (C : Curve) (hC : C.Lawful) (k : Nat) (hk : 1 ≤ k ∧ k < C.n) (t : Tx) (cid : Int)
    (hc : 0 ≤ cid ∧ cid ≤ 2 ^ 53) (hf : Fits t) :
    recoverRaw C (signTx C .auto t k cid) cid = .ok (keyAddress C k, normAuto t, payloadAuto t cid) := by
  rw [signTx_auto]
  unfold normAuto payloadAuto
  by_cases h : wants1559 t = true
  · simp only [h, if_true]; exact recover_sign_1559 C hC k hk t cid hc hf
  · have h' : wants1559 t = false := by simpa using h
    simp only [h', Bool.false_eq_true, if_false]; exact recover_sign_eip155 C hC k hk t cid hc hf

/-- **All four signing modes**: `RecoverRawTransaction ∘ Sign<mode>` = (signer's address, the signed field values, the
    signing payload of that mode). -/
theorem recover_sign_every_mode (C : Curve) (hC : C.Lawful) (k : Nat) (hk : 1 ≤ k ∧ k < C.n) (mode : Mode) (t : Tx)
    (cid : Int) (hc : 0 ≤ cid ∧ cid ≤ 2 ^ 53) (hf : Fits t) :
    recoverRaw C (signTx C mode t k cid) cid = .ok (keyAddress C k, normOf mode t, payload mode t cid) := by
  cases mode with
  | legacyOriginal => exact recover_sign_legacyOriginal C hC k hk t cid hc hf
  | eip155 => exact recover_sign_eip155 C hC k hk t cid hc hf
  | eip1559 => exact recover_sign_1559 C hC k hk t cid hc hf
  | auto => exact recover_sign_auto C hC k hk t cid hc hf

/-- non-vacuity: a concrete transaction (contract creation with fee-market fields, 3 data bytes) meets `Fits` -/
example : Fits { nonce := some 7, gasPrice := none, tip := some 1, feeCap := some (10 ^ 10), gasLimit := some 21000,
                 to := none, value := some (10 ^ 18), data := [1, 2, 3] } := by
  constructor <;> simp [big]

/-- … and with the lawful toy curve of C05 every hypothesis of `recover_sign_auto` is met at once: recovery of a signed
    transaction does return `.ok` (which is also what makes the soundness theorems of C10 non-vacuous) -/
example : ∃ (raw a p : Bytes) (tx : Tx), recoverRaw C05.toyCurve raw 1 = .ok (a, tx, p) :=
  ⟨_, _, _, _, recover_sign_auto C05.toyCurve C05.toyCurve_lawful 1 (by decide)
    { nonce := some 7, gasPrice := none, tip := some 1, feeCap := some (10 ^ 10), gasLimit := some 21000,
      to := none, value := some (10 ^ 18), data := [1, 2, 3] } 1 (by decide) (by constructor <;> simp [big])⟩

end FFS.Props.C01
