/-
  Property C13 — ABI type strings are accepted exactly when valid, and normalise idempotently.
  Model: FFS.Model.Abi (AbiTypes.lean) mirrors the parser of pkg/abi/typecomponents.go;
  the elementary type table is regenerated (FFS.Gen.AbiTypeTable). Spec: FFS.Spec.AbiGrammar.
  Headline: `parse_agrees` / `accepts_iff_grammar` / `rendered_is_canonical` (parse ⇔ grammar with canonical spelling),
  `reparse` / `reparse_list` / `reparse_rendered` / `canonical_idempotent` (parsing the written-back definition yields the same tree).
-/
import FFS.Model.AbiTypes
import FFS.Spec.AbiGrammar
import FFS.Lemmas.Decimal
import FFS.Lemmas.Span
namespace FFS.Props.C13
open FFS FFS.Model.Abi FFS.Gen.AbiTypeTable
open FFS.Spec.AbiGrammar (isDigit decVal canonical validWidth validBytesLen validPrecision arrayDims canonBase renderDims P canon canonList)

/-- The regenerated elementary-type table is exactly the Solidity ABI's (limits, aliases, dynamic-ness).
    A changed limit in /repo breaks this and the harness sweeps the widths around it. -/
theorem table_expected : table.map (fun i => (i.name, i.suffixType, i.defaultSuffix, i.defaultM, i.mMin, i.mMax,
      i.mMod, i.nMin, i.nMax, i.dyn)) =
    [("address", .none, "", 160, 0, 0, 0, 0, 0, .never),
     ("bool", .none, "", 8, 0, 0, 0, 0, 0, .never),
     ("bytes", .mOptional, "", 0, 1, 32, 0, 0, 0, .whenNoSuffix),
     ("fixed", .mxnRequired, "128x18", 0, 8, 256, 8, 1, 80, .never),
     ("function", .none, "", 24, 0, 0, 0, 0, 0, .never),
     ("int", .mRequired, "256", 0, 8, 256, 8, 0, 0, .never),
     ("string", .none, "", 0, 0, 0, 0, 0, 0, .always),
     ("ufixed", .mxnRequired, "128x18", 0, 8, 256, 8, 1, 80, .never),
     ("uint", .mRequired, "256", 0, 8, 256, 8, 0, 0, .never)] := by rfl

/-- the guards of typecomponents.go are present in /repo (regenerated facts); the model branches on the first three and
    has the fourth, `ParseUint(_, 10, 32)` for an array dimension, built in -/
theorem guards_present : tupleRejectsSuffix = true ∧ mCanonical = true ∧ nCanonical = true ∧ arrayDim32 = true := by
  decide

theorem tuple_keyword : tupleTypeString = "tuple" := by decide

theorem isDigit_iff {c : Char} : isDigit c = true ↔ 48 ≤ c.toNat ∧ c.toNat ≤ 57 := Lemmas.Decimal.isDigit_iff

theorem toString_chars (k : Nat) : (toString k).toList = Nat.toDigits 10 k := Lemmas.Decimal.toString_toList k

theorem canonical_iff {s : List Char} : canonical s = true ↔
    ∃ c t, s = c :: t ∧ (∀ x ∈ s, isDigit x = true) ∧ (c ≠ '0' ∨ t = []) := by
  cases s with
  | nil => simp [canonical]
  | cons c t =>
    simp only [canonical, List.isEmpty_cons, Bool.not_false, Bool.true_and, Bool.and_eq_true, List.all_eq_true,
      Bool.or_eq_true, beq_iff_eq, List.length_cons, List.head?_cons, bne_iff_ne, ne_eq, Option.some.injEq,
      List.cons.injEq, Nat.add_eq_right, List.length_eq_zero_iff]
    constructor
    · rintro ⟨hd, h0⟩; exact ⟨c, t, ⟨rfl, rfl⟩, hd, h0.symm⟩
    · rintro ⟨_, _, ⟨rfl, rfl⟩, hd, h0⟩; exact ⟨hd, h0.symm⟩

theorem decVal_format (n : Nat) : decVal (formatUint n) = n := by
  rw [formatUint, toString_chars]; exact Lemmas.Decimal.foldl_toDigits n

theorem canonical_format (n : Nat) : canonical (formatUint n) = true := by
  rw [formatUint, toString_chars, canonical_iff]
  cases h : Nat.toDigits 10 n with
  | nil => exact absurd h Nat.toDigits_ne_nil
  | cons c t =>
    refine ⟨c, t, rfl, fun x hx => isDigit_iff.2 (Lemmas.Decimal.mem_toDigits (h ▸ hx)), ?_⟩
    by_cases hn : n = 0
    · subst hn; cases h; exact Or.inr rfl
    · have := Lemmas.Decimal.head_toDigits (b := 10) (by decide) (Nat.pos_of_ne_zero hn)
      rw [h] at this; exact Or.inl (by simpa using this)

theorem format_decVal {s : List Char} (hc : canonical s = true) : formatUint (decVal s) = s := by
  obtain ⟨c, t, rfl, hd, h0⟩ := canonical_iff.1 hc
  rw [formatUint, toString_chars]
  exact Lemmas.Decimal.toDigits_foldl_zero (fun x hx => isDigit_iff.1 (hd x hx)) h0

theorem canonical_length {s : List Char} (hc : canonical s = true) {k : Nat} (hk : 0 < k) :
    s.length ≤ k ↔ decVal s < 10 ^ k := by
  have := Nat.length_toDigits_le_iff (b := 10) (n := decVal s) (by decide) hk
  rwa [← toString_chars, ← formatUint, format_decVal hc] at this

theorem parseUint_eq (s : List Char) (bits : Nat) :
    parseUint s bits = if s.isEmpty then none else if s.all isDigit then
      (if decVal s < 2 ^ bits then some (decVal s) else none) else none := rfl

theorem parseUint_eq_some {s : List Char} {bits v : Nat} :
    parseUint s bits = some v ↔ s ≠ [] ∧ (∀ c ∈ s, isDigit c = true) ∧ decVal s = v ∧ v < 2 ^ bits := by
  simp only [parseUint_eq, Option.ite_none_left_eq_some, Option.ite_none_right_eq_some, Option.some.injEq,
    List.isEmpty_iff, List.all_eq_true]
  exact ⟨fun ⟨h1, h2, h3, h4⟩ => ⟨h1, h2, h4, h4 ▸ h3⟩, fun ⟨h1, h2, h3, h4⟩ => ⟨h1, h2, h3 ▸ h4, h3⟩⟩

/-- `ParseUint(s, 10, bits)` and then the test `FormatUint(v, 10) == s` pass exactly the canonical numerals below `2^bits` -/
theorem parseUint_format {s : List Char} {bits v : Nat} :
    parseUint s bits = some v ∧ formatUint v = s ↔ canonical s = true ∧ decVal s = v ∧ v < 2 ^ bits := by
  rw [parseUint_eq_some]
  constructor
  · rintro ⟨⟨_, _, hv, hb⟩, hf⟩
    exact ⟨hf ▸ canonical_format v, hv, hb⟩
  · rintro ⟨hc, hv, hb⟩
    obtain ⟨c, t, rfl, hd, _⟩ := canonical_iff.1 hc
    exact ⟨⟨by simp, hd, hv, hb⟩, hv ▸ format_decVal hc⟩

theorem parseM_eq_some {info : ElemInfo} {s : List Char} {m : Nat} : parseM info s = some m ↔
    (canonical s = true ∧ decVal s = m ∧ m < 2 ^ 16) ∧ info.mMin ≤ m ∧ m ≤ info.mMax ∧ (info.mMod ≠ 0 → m % info.mMod = 0) := by
  rw [← parseUint_format]
  unfold parseM
  cases parseUint s 16 with
  | none => simp
  | some v =>
    simp only [guards_present.2.1, Bool.true_and, bne_iff_ne, ne_eq, ite_not, Bool.or_eq_true, decide_eq_true_eq, Bool.and_eq_true,
      Option.ite_none_left_eq_some, Option.ite_none_right_eq_some, Option.some.injEq, not_or, not_and,
      Nat.not_lt, Decidable.not_not, gt_iff_lt]
    constructor
    · rintro ⟨hf, hr, hm, rfl⟩; exact ⟨⟨rfl, hf⟩, hr.1, hr.2, hm⟩
    · rintro ⟨⟨rfl, hf⟩, h1, h2, hm⟩; exact ⟨hf, ⟨h1, h2⟩, hm, rfl⟩

theorem parseN_eq_parseM (info : ElemInfo) (s : List Char) :
    parseN info s = parseM { info with mMin := info.nMin, mMax := info.nMax, mMod := 0 } s := by
  unfold parseN parseM
  cases parseUint s 16 <;> simp [guards_present]

/-- What `parseMSuffix` accepts: the canonical decimal spelling of a value inside the type's limits. -/
theorem parseM_sound {info : ElemInfo} {s : List Char} {m : Nat} (h : parseM info s = some m) :
    formatUint m = s ∧ info.mMin ≤ m ∧ m ≤ info.mMax ∧ (info.mMod ≠ 0 → m % info.mMod = 0) ∧ m < 2 ^ 16 := by
  obtain ⟨⟨hc, rfl, hb⟩, h1, h2, h3⟩ := parseM_eq_some.1 h
  exact ⟨format_decVal hc, h1, h2, h3, hb⟩

theorem parseN_sound {info : ElemInfo} {s : List Char} {n : Nat} (h : parseN info s = some n) :
    formatUint n = s ∧ info.nMin ≤ n ∧ n ≤ info.nMax := by
  rw [parseN_eq_parseM] at h
  obtain ⟨h0, h1, h2, _⟩ := parseM_sound h
  exact ⟨h0, h1, h2⟩

/-- An accepted integer type has a width inside 8..256 that is a multiple of 8, spelled canonically
    (`parseM_sound` at the regenerated rows `uint`, `int`). -/
theorem uint_width_sound {s : List Char} {m : Nat} (info : ElemInfo) (hi : info ∈ table)
    (hn : info.name = "uint" ∨ info.name = "int") (h : parseM info s = some m) :
    8 ≤ m ∧ m ≤ 256 ∧ m % 8 = 0 ∧ formatUint m = s := by
  have hrow : ∀ i ∈ table, i.name = "uint" ∨ i.name = "int" → i.mMin = 8 ∧ i.mMax = 256 ∧ i.mMod = 8 := by decide
  obtain ⟨h0, h1, h2, h3, _⟩ := parseM_sound h
  obtain ⟨e1, e2, e3⟩ := hrow info hi hn
  rw [e1] at h1
  rw [e2] at h2
  rw [e3] at h3
  exact ⟨h1, h2, h3 (by decide), h0⟩

/-- a numeral check of the grammar: canonical, value in [lo, hi], multiple of `md` -/
def okNum (lo hi md : Nat) (s : List Char) : Bool :=
  canonical s && (decide (lo ≤ decVal s) && decide (decVal s ≤ hi) && (md == 0 || decVal s % md == 0))

theorem parseM_isSome (info : ElemInfo) (s : List Char) (hmax : info.mMax < 2 ^ 16) :
    (parseM info s).isSome = okNum info.mMin info.mMax info.mMod s := by
  rw [Bool.eq_iff_iff, Option.isSome_iff_exists]
  simp only [parseM_eq_some, okNum, Bool.and_eq_true, decide_eq_true_eq, Bool.or_eq_true, beq_iff_eq]
  constructor
  · rintro ⟨m, ⟨hc, rfl, _⟩, h1, h2, h3⟩; exact ⟨hc, ⟨h1, h2⟩, Decidable.or_iff_not_imp_left.2 h3⟩
  · rintro ⟨hc, ⟨h1, h2⟩, h3⟩; exact ⟨_, ⟨hc, rfl, by omega⟩, h1, h2, Decidable.or_iff_not_imp_left.1 h3⟩

theorem parseN_isSome (info : ElemInfo) (s : List Char) (hmax : info.nMax < 2 ^ 16) :
    (parseN info s).isSome = okNum info.nMin info.nMax 0 s := by
  rw [parseN_eq_parseM]; exact parseM_isSome _ s hmax

/-- the grammar's bounds on the number of digits follow from its bounds on the value -/
theorem okNum_eq (lo hi md : Nat) (s : List Char) {k : Nat} (hk : 0 < k) (hhi : hi < 10 ^ k) :
    (canonical s && decide (s.length ≤ k) && (decide (lo ≤ decVal s) && decide (decVal s ≤ hi) && (md == 0 || decVal s % md == 0))) =
      okNum lo hi md s := by
  rw [Bool.eq_iff_iff]
  simp only [okNum, Bool.and_eq_true, decide_eq_true_eq]
  exact ⟨fun h => ⟨h.1.1, h.2⟩, fun h => ⟨⟨h.1, (canonical_length h.1 hk).2 (by omega)⟩, h.2⟩⟩

theorem validWidth_eq (s : List Char) : validWidth s = okNum 8 256 8 s := okNum_eq 8 256 8 s (k := 3) (by decide) (by decide)

theorem validBytesLen_eq (s : List Char) : validBytesLen s = okNum 1 32 0 s := by
  simp [validBytesLen, ← okNum_eq 1 32 0 s (k := 2)]

theorem validPrecision_eq (s : List Char) : validPrecision s = okNum 1 80 0 s := by
  simp [validPrecision, ← okNum_eq 1 80 0 s (k := 2)]

/-! The model parser and the independently written recogniser `Spec.AbiGrammar.canon` agree on every parameter: acceptance,
and the canonical spelling of what is accepted (`parse_agrees`). The grammar dispatches on the type's name, the model on
the row's `suffixType`: the nine rows are looked at in `canonBase_table` / `canonBase_none` (names) and `table_fits`
(limits), everything else is about a row variable.
An agreement `ElemAgrees (f x) (spec x)` is consumed by `match f x, spec x, agreement x with | .ok t, _, rfl => …`: the
proof is matched along with the values, and the `.panic` alternative needs no arm because its agreement is `False`. -/

/-- `parseMxNSuffix` without its index arithmetic: cut at the first `x`, read M before it and N after it -/
theorem parseMxN_eq (info : ElemInfo) (s : List Char) :
    parseMxN info s = match s.dropWhile (· != 'x') with
      | _ :: n => (parseM info (s.takeWhile (· != 'x'))).bind fun m => (parseN info n).map fun k => (m, k)
      | [] => none := by
  unfold parseMxN
  have hs := List.takeWhile_append_dropWhile (p := (· != 'x')) (l := s)
  generalize s.takeWhile (· != 'x') = tw at hs ⊢
  generalize s.dropWhile (· != 'x') = dw at hs ⊢
  subst hs
  cases dw with
  | nil => simp
  | cons c n =>
    cases n with
    | nil => cases parseM info tw <;> simp [parseN, parseUint]
    | cons d n' =>
      have hlen : ¬ (tw.length + 1 ≥ (tw ++ c :: d :: n').length) := by simp
      have hdrop : (tw ++ c :: d :: n').drop (tw.length + 1) = d :: n' := by simp
      simp only [hlen, if_false, hdrop]
      cases parseM info tw <;> cases parseN info (d :: n') <;> rfl

theorem str_append_ofList (b : String) (l : List Char) : b ++ String.ofList l = String.ofList (b.toList ++ l) := by
  apply String.ext; simp

theorem str_append_empty (a : String) : a ++ "" = a := by
  apply String.ext; simp

/-- what the grammar says about a base name and suffix, as a verdict on the model's elementary branch -/
def ElemAgrees (r : Outcome Ty) (c : Option String) : Prop :=
  match r with
  | .ok t => c = some (render t)
  | .err => c = none
  | .panic => False

/-- the grammar's elementary branch read off a table row, for the effective suffix -/
def rowCanon (info : ElemInfo) (s : List Char) : Option String :=
  match info.suffixType with
  | .none => if s.isEmpty then some info.name else none
  | .mRequired => if okNum info.mMin info.mMax info.mMod s then some (info.name ++ String.ofList s) else none
  | .mOptional =>
    if s.isEmpty then some info.name
    else if okNum info.mMin info.mMax info.mMod s then some (info.name ++ String.ofList s) else none
  | .mxnRequired =>
    match s.dropWhile (· != 'x') with
    | _ :: n =>
      if okNum info.mMin info.mMax info.mMod (s.takeWhile (· != 'x')) && okNum info.nMin info.nMax 0 n then
        some (info.name ++ String.ofList s) else none
    | [] => none

/-- a row of any table whose limits fit the 16-bit suffix parser accepts what `rowCanon` accepts, with that spelling -/
theorem elementaryOf_agrees (info : ElemInfo) (hM : info.mMax < 2 ^ 16) (hN : info.nMax < 2 ^ 16) (s : List Char) :
    ElemAgrees (elementaryOf info s) (rowCanon info s) := by
  have hm := fun s => parseM_isSome info s hM
  have hn := fun s => parseN_isSome info s hN
  unfold elementaryOf rowCanon
  cases info.suffixType with
  | none => cases s <;> simp [ElemAgrees, render]
  | mRequired =>
    cases s with
    | nil => simp [ElemAgrees, okNum, canonical]
    | cons c t => rw [← hm]; cases parseM info (c :: t) <;> simp [ElemAgrees, render]
  | mOptional =>
    cases s with
    | nil => simp [ElemAgrees, render]
    | cons c t => rw [← hm]; cases parseM info (c :: t) <;> simp [ElemAgrees, render]
  | mxnRequired =>
    rw [parseMxN_eq]
    cases s with
    | nil => simp [ElemAgrees]
    | cons c t =>
      cases (c :: t).dropWhile (· != 'x') with
      | nil => simp [ElemAgrees]
      | cons x n =>
        simp only [← hm, ← hn]
        cases parseM info ((c :: t).takeWhile (· != 'x')) <;> cases parseN info n <;> simp [ElemAgrees, render]

theorem table_fits : ∀ info ∈ table, info.mMax < 2 ^ 16 ∧ info.nMax < 2 ^ 16 := by decide

/-- on the names of the regenerated table, the grammar's elementary branch is the table's row -/
theorem canonBase_table : ∀ info ∈ table, ∀ (et suffix : List Char), String.ofList et = info.name →
    canonBase et suffix = rowCanon info (if suffix.isEmpty then info.defaultSuffix.toList else suffix) := by
  intro info hi et suffix het
  unfold canonBase
  simp only [het]
  simp only [table, List.mem_cons, List.mem_nil_iff, or_false] at hi
  have h256 : okNum 8 256 8 ['2', '5', '6'] = true := by decide
  have h128 : okNum 8 256 8 ['1', '2', '8'] = true := by decide
  have h18 : okNum 1 80 0 ['1', '8'] = true := by decide
  rcases hi with rfl | rfl | rfl | rfl | rfl | rfl | rfl | rfl | rfl <;> cases suffix <;>
    simp [rowCanon, validWidth_eq, validBytesLen_eq, validPrecision_eq, h256, h128, h18]
  -- left: the two `MxN` rows, the same match on either side through different matchers
  all_goals generalize List.dropWhile (fun x => x != 'x') _ = dw; cases dw <;> rfl

theorem canonBase_none (et suffix : List Char) (h : table.find? (fun i => i.name == String.ofList et) = none) :
    canonBase et suffix = none := by
  simp only [List.find?_eq_none, table, List.mem_cons, List.mem_nil_iff, or_false, forall_eq_or_imp, forall_eq, beq_iff_eq,
    @eq_comm _ _ (String.ofList et)] at h
  simp [canonBase, h]

/-- **The elementary branch agrees with the grammar**: for every base name and suffix, the model accepts exactly when
    the grammar does, and then the rendered type is the canonical spelling. -/
theorem parseElementary_agrees (et suffix : List Char) :
    ElemAgrees (parseElementary et suffix) (canonBase et suffix) := by
  unfold parseElementary
  cases h : table.find? (fun i => i.name == String.ofList et) with
  | none => exact canonBase_none et suffix h
  | some info =>
    have hi := List.mem_of_find?_eq_some h
    have hn : info.name = String.ofList et := by simpa using List.find?_some h
    rw [canonBase_table info hi et suffix hn.symm]
    exact elementaryOf_agrees info (table_fits info hi).1 (table_fits info hi).2 _

/-- the array layers the grammar reads off a suffix, applied to a child type -/
def wrap : Ty → List (Option Nat) → Ty
  | c, [] => c
  | c, none :: r => wrap (.darr c) r
  | c, some k :: r => wrap (.farr c k) r

def wrap1 (c : Ty) : Option Nat → Ty
  | none => .darr c
  | some k => .farr c k

theorem wrap_cons (c : Ty) (d : Option Nat) (r : List (Option Nat)) : wrap c (d :: r) = wrap (wrap1 c d) r := by
  cases d <;> rfl

/-- the grammar's reading of the text between two brackets -/
def dimOf (ds : List Char) : Option (Option Nat) :=
  if ds.isEmpty then some none else if decVal ds < 2 ^ 32 then some (some (decVal ds)) else none

theorem isLower_iff {c : Char} : isLower c = true ↔ 97 ≤ c.toNat ∧ c.toNat ≤ 122 := by
  simp only [isLower, Bool.and_eq_true, decide_eq_true_eq, Char.le_def, UInt32.le_iff_toNat_le]
  exact Iff.rfl

theorem isDigit_sep {c : Char} (h : isDigit c = true) : (c != ']') = true ∧ (c != '[') = true ∧ isLower c = false := by
  rw [isDigit_iff] at h
  refine ⟨bne_iff_ne.2 ?_, bne_iff_ne.2 ?_, Bool.eq_false_iff.2 fun hl => ?_⟩
  · rintro rfl; revert h; decide
  · rintro rfl; revert h; decide
  · have := isLower_iff.1 hl; omega

/-- `parseArrayM` on the text between two brackets -/
theorem arrayComponent_eq (child : Ty) (m : List Char) :
    arrayComponent child m = Outcome.ofOption ((if m.all isDigit then dimOf m else none).map (wrap1 child)) := by
  unfold arrayComponent dimOf
  cases m with
  | nil => rfl
  | cons c t =>
    simp only [parseUint_eq, List.isEmpty_cons, Bool.false_eq_true, if_false]
    by_cases hd : (c :: t).all isDigit = true
    · by_cases hv : decVal (c :: t) < 2 ^ 32 <;> simp only [hd, hv, if_true, if_false] <;> rfl
    · simp only [hd]; rfl

/-- one bracket group `[ds]more`, as the grammar reads it (`parseArrays_group`: as the model does) -/
theorem arrayDims_group (j : Nat) (ds more : List Char) (hd : ∀ c ∈ ds, isDigit c = true) :
    arrayDims (j + 1) ('[' :: (ds ++ ']' :: more)) =
      (dimOf ds).bind fun d => (arrayDims j more).map (d :: ·) := by
  obtain ⟨h1, h2⟩ := Lemmas.span_eq (p := isDigit) (a := ds) (b := ']' :: more) hd (by simp; decide)
  rw [arrayDims]
  simp only [h1, h2]
  change (match dimOf ds, arrayDims j more with | some d, some r => some (d :: r) | _, _ => none) = _
  cases dimOf ds <;> cases arrayDims j more <;> rfl

theorem parseArrays_group (k : Nat) (child : Ty) (ds more : List Char) (hd : ∀ c ∈ ds, isDigit c = true) :
    parseArrays (k + 1) child ('[' :: (ds ++ ']' :: more)) =
      match dimOf ds with
      | some d => if more.isEmpty then .ok (wrap1 child d) else parseArrays k (wrap1 child d) more
      | none => .err := by
  obtain ⟨h1, h2⟩ := Lemmas.span_eq (p := (· != ']')) (a := ds) (b := ']' :: more)
    (fun c hc => (isDigit_sep (hd c hc)).1) (by simp)
  simp only [parseArrays, h1, h2, arrayComponent_eq, List.all_eq_true.2 hd, if_true]
  cases dimOf ds <;> rfl

theorem arrayDims_not_open (j : Nat) {c : Char} (rest : List Char) (h : c ≠ '[') : arrayDims (j + 1) (c :: rest) = none := by
  simp [arrayDims, h]

theorem arrayDims_no_close (j : Nat) (ds after : List Char) (hds : ∀ c ∈ ds, isDigit c = true)
    (hafter : ∀ c ∈ after.head?, isDigit c = false) (hclose : ¬ ∃ more, after = ']' :: more) :
    arrayDims (j + 1) ('[' :: (ds ++ after)) = none := by
  rw [arrayDims]
  simp only [(Lemmas.span_eq hds hafter).2]
  split
  · exact absurd ⟨_, rfl⟩ hclose
  · rfl

/-- The array suffix, empty or not, read by the model and by the grammar (any fuel that covers it, on both sides). -/
theorem parseArrays_eq : ∀ (f1 f2 : Nat) (s : List Char) (child : Ty), s.length < f1 → s.length < f2 →
    (if s.isEmpty then .ok child else parseArrays f1 child s) = Outcome.ofOption ((arrayDims f2 s).map (wrap child))
  | _, 0, _, _, _, h2 => absurd h2 (Nat.not_lt_zero _)
  | 0, _, _, _, h1, _ => absurd h1 (Nat.not_lt_zero _)
  | _ + 1, _ + 1, [], _, _, _ => rfl
  | k + 1, j + 1, c0 :: rest, child, h1, h2 => by
    simp only [List.isEmpty_cons, Bool.false_eq_true, if_false]
    by_cases hc0 : c0 = '['
    · subst hc0
      obtain ⟨ds, after, rfl, hds, hafter⟩ := Lemmas.span_exists isDigit rest
      by_cases hclose : ∃ more, after = ']' :: more
      · obtain ⟨more, rfl⟩ := hclose
        rw [parseArrays_group k child ds more hds, arrayDims_group j ds more hds]
        cases dimOf ds with
        | none => rfl
        | some d =>
          simp only [List.length_cons, List.length_append] at h1 h2
          simp only [parseArrays_eq k j more (wrap1 child d) (by omega) (by omega), Option.bind_some]
          cases arrayDims j more <;> simp [Outcome.ofOption, wrap_cons]
      · -- the digits are followed by the end of the text or by a character that is neither digit nor `]`
        have hne : ∀ x ∈ ds, (x != ']') = true := fun x hx => (isDigit_sep (hds x hx)).1
        rw [arrayDims_no_close j ds after hds hafter hclose]
        simp only [parseArrays]
        cases after with
        | nil => simp only [(Lemmas.span_eq (b := []) hne (fun _ h => nomatch h)).2]; rfl
        | cons c more' =>
          -- `c`, not a digit, is part of the text before the next `]`
          have hmem : c ∈ (ds ++ c :: more').takeWhile (· != ']') := by
            have : c ≠ ']' := fun h => hclose ⟨more', by rw [h]⟩
            rw [List.takeWhile_append_of_pos hne]; simp [this]
          have hall : ¬ ((ds ++ c :: more').takeWhile (· != ']')).all isDigit = true := fun h => by
            simpa [hafter c rfl] using List.all_eq_true.1 h c hmem
          rw [arrayComponent_eq, if_neg hall]
          split <;> rfl
    · rw [arrayDims_not_open j rest hc0]
      simp only [parseArrays]
      split
      · rename_i heq; injection heq with h _; exact absurd h hc0
      · rfl

/-- **The array suffix agrees with the grammar** (any fuel that covers the suffix, on both sides). -/
theorem arrays_agree : ∀ (f1 f2 : Nat) (s : List Char) (child : Ty), s.length < f1 → s.length < f2 → s ≠ [] →
    match arrayDims f2 s with
    | some dims => parseArrays f1 child s = .ok (wrap child dims)
    | none => parseArrays f1 child s = .err := by
  intro f1 f2 s child h1 h2 hne
  have := parseArrays_eq f1 f2 s child h1 h2
  rw [if_neg (by simpa using hne)] at this
  rw [this]
  cases arrayDims f2 s <;> rfl

/-- `render` and `typeStr` write array layers alike -/
theorem spell_wrap (f : Ty → String) (hf : ∀ c k, f (.farr c k) = f c ++ "[" ++ toString k ++ "]")
    (hd : ∀ c, f (.darr c) = f c ++ "[]") : ∀ (dims : List (Option Nat)) (c : Ty), f (wrap c dims) = f c ++ renderDims dims
  | [], c => by simp [wrap, renderDims]
  | none :: r, c => by rw [wrap, spell_wrap f hf hd r, hd, renderDims, String.append_assoc]
  | some k :: r, c => by rw [wrap, spell_wrap f hf hd r, hf, renderDims]; simp [String.append_assoc]

theorem render_wrap (dims : List (Option Nat)) (c : Ty) : render (wrap c dims) = render c ++ renderDims dims :=
  spell_wrap render (fun _ _ => by rw [render]) (fun _ => by rw [render]) dims c

mutual
  /-- the grammar's view of a parameter: its type string and its components -/
  def toP : Param → P
    | .mk _ type _ _ comps => .mk type (toPs comps)
  def toPs : List Param → List P
    | [] => []
    | p :: ps => toP p :: toPs ps
end

theorem lower_ne_open {c : Char} (h : isLower c = true) : (c != '[') = true := by
  rw [isLower_iff] at h
  exact bne_iff_ne.2 (by rintro rfl; revert h; decide)

/-- the model's and the grammar's ways of cutting a type string into letters, suffix and array part coincide -/
theorem split_agrees (cs : List Char) :
    (cs.takeWhile (· != '[')).takeWhile (fun c => decide ('a' ≤ c) && decide (c ≤ 'z')) = cs.takeWhile isLower ∧
    (cs.takeWhile (· != '[')).drop (cs.takeWhile isLower).length =
      (cs.drop (cs.takeWhile isLower).length).takeWhile (· != '[') ∧
    cs.dropWhile (· != '[') = (cs.drop (cs.takeWhile isLower).length).dropWhile (· != '[') := by
  obtain ⟨et, rest, rfl, het, hrest⟩ := Lemmas.span_exists isLower cs
  have hq : ∀ x ∈ et, (x != '[') = true := fun x hx => lower_ne_open (het x hx)
  rw [(Lemmas.span_eq het hrest).1, List.takeWhile_append_of_pos hq, List.dropWhile_append_of_pos hq, List.drop_left,
    List.drop_left]
  refine ⟨(Lemmas.span_eq het fun x hx => hrest x ?_).1, rfl, rfl⟩
  rw [List.head?_takeWhile] at hx
  exact (Option.filter_eq_some_iff.1 hx).1

/-- the base type of a parameter: a tuple of its components, or a row of the table -/
def baseOf (et suffix : List Char) (comps : List Param) : Outcome Ty :=
  if String.ofList et == tupleTypeString then
    if tupleRejectsSuffix && !suffix.isEmpty then .err
    else
      match parseParams comps with
      | .ok ts => .ok (.tuple (comps.map Param.name) ts)
      | .err => .err
      | .panic => .panic
  else parseElementary et suffix

/-- `parseABIParameterComponents` at a glance: cut the type string, find the base type, add the array layers -/
theorem parseParam_eq (nm type : String) (ix : Bool) (it : String) (comps : List Param) :
    parseParam (.mk nm type ix it comps) =
      let rest := type.toList.drop (type.toList.takeWhile isLower).length
      let arrays := rest.dropWhile (· != '[')
      match baseOf (type.toList.takeWhile isLower) (rest.takeWhile (· != '[')) comps with
      | .ok tc => Outcome.ofOption ((arrayDims (arrays.length + 1) arrays).map (wrap tc))
      | .err => .err
      | .panic => .panic := by
  unfold parseParam
  simp only [fun tc => parseArrays_eq _ _ ((type.toList.drop (type.toList.takeWhile isLower).length).dropWhile (· != '[')) tc
    (Nat.lt_succ_self _) (Nat.lt_succ_self _)]
  rfl

theorem baseOf_ok {et sfx : List Char} {comps : List Param} {tc : Ty} (h : baseOf et sfx comps = .ok tc) :
    (∃ ts, tc = .tuple (comps.map Param.name) ts ∧ parseParams comps = .ok ts) ∨
    (String.ofList et ≠ "tuple" ∧ parseElementary et sfx = .ok tc) := by
  unfold baseOf at h
  split at h
  · split at h
    · cases h
    · match hp : parseParams comps, h with
      | .ok ts, rfl => exact Or.inl ⟨ts, rfl, rfl⟩
  · rename_i hnt
    exact Or.inr ⟨by simpa [tuple_keyword] using hnt, h⟩

def ListAgrees (r : Outcome (List Ty)) (c : Option String) : Prop :=
  match r with
  | .ok ts => c = some (renderList ts)
  | .err => c = none
  | .panic => False

mutual
  /-- **parse ⇔ grammar, with the canonical spelling.** For every parameter (any Unicode type string, any component
      tree): the parser accepts exactly when the Solidity ABI type grammar accepts, and the rendered signature of
      the accepted type is the grammar's canonical spelling. -/
  theorem parse_agrees : (p : Param) → ElemAgrees (parseParam p) (canon (toP p))
    | .mk name type idx it comps => by
      obtain ⟨hs1, hs2, hs3⟩ := split_agrees type.toList
      rw [parseParam_eq]
      simp only [toP, canon, baseOf]
      rw [hs1, hs2, hs3]
      generalize type.toList.takeWhile isLower = et
      generalize (type.toList.drop et.length).takeWhile (· != '[') = suffix
      generalize (type.toList.drop et.length).dropWhile (· != '[') = arrays
      by_cases htup : String.ofList et = "tuple"
      · simp only [htup, tuple_keyword, beq_self_eq_true, if_true, guards_present.1, Bool.true_and]
        cases suffix.isEmpty with
        | false => cases arrayDims (arrays.length + 1) arrays <;> simp [ElemAgrees]
        | true =>
          match parseParams comps, canonList (toPs comps), parseParams_agrees comps with
          | .ok ts, _, rfl => cases arrayDims (arrays.length + 1) arrays <;> simp [ElemAgrees, Outcome.ofOption, render, render_wrap]
          | .err, _, rfl => cases arrayDims (arrays.length + 1) arrays <;> simp [ElemAgrees]
      · have hne : (String.ofList et == "tuple") = false := by simpa using htup
        simp only [hne, tuple_keyword, Bool.false_eq_true, if_false]
        match parseElementary et suffix, canonBase et suffix, parseElementary_agrees et suffix with
        | .ok tc, _, rfl => cases arrayDims (arrays.length + 1) arrays <;> simp [ElemAgrees, Outcome.ofOption, render_wrap]
        | .err, _, rfl => cases arrayDims (arrays.length + 1) arrays <;> simp [ElemAgrees]
  theorem parseParams_agrees : (ps : List Param) → ListAgrees (parseParams ps) (canonList (toPs ps))
    | [] => rfl
    | [p] => by
      simp only [parseParams, toPs, canonList]
      match parseParam p, canon (toP p), parse_agrees p with
      | .ok t, _, rfl => simp [ListAgrees, renderList]
      | .err, _, rfl => simp [ListAgrees]
    | p :: q :: ps => by
      have h2 := parseParams_agrees (q :: ps)
      simp only [parseParams, toPs, canonList] at h2 ⊢
      match parseParam p, canon (toP p), parse_agrees p with
      | .err, _, rfl => simp [ListAgrees]
      | .ok t, _, rfl =>
        match parseParam q, parseParams ps, h2 with
        | .ok tq, .ok ts, h2 => simp only [ListAgrees] at h2 ⊢; simp [h2, renderList]
        | .ok tq, .err, h2 => simp only [ListAgrees] at h2 ⊢; simp [h2]
        | .err, _, h2 => simp only [ListAgrees] at h2 ⊢; simp [h2]
end

/-- **Totality.** Parsing any parameter (arbitrary Unicode type string, arbitrary component tree) returns a type or an
    error, never a panic, so the fuel of the array-suffix recursion suffices: `ElemAgrees` holds of no panic. -/
theorem parse_total : (p : Param) → parseParam p ≠ .panic :=
  fun p h => by have := parse_agrees p; rwa [h] at this

theorem parseParams_total : (ps : List Param) → parseParams ps ≠ .panic :=
  fun ps h => by have := parseParams_agrees ps; rwa [h] at this

/-- **Accepted exactly when in the grammar.** -/
theorem accepts_iff_grammar (p : Param) : (∃ t, parseParam p = .ok t) ↔ (canon (toP p)).isSome = true := by
  match parseParam p, canon (toP p), parse_agrees p with
  | .ok t, _, rfl => simp
  | .err, _, rfl => simp

/-- **The rendered signature of an accepted type is its canonical spelling.** -/
theorem rendered_is_canonical (p : Param) (t : Ty) (h : parseParam p = .ok t) : canon (toP p) = some (render t) := by
  have := parse_agrees p
  rwa [h] at this

/-- … and a type string outside the grammar is reported as an error (never a panic: `parse_total`). -/
theorem outside_grammar_is_error (p : Param) (h : canon (toP p) = none) : parseParam p = .err := by
  match parseParam p, parse_agrees p with
  | .ok t, h' => exact absurd (h.symm.trans h') nofun
  | .err, _ => rfl

theorem dimOf_lt {ds : List Char} {k : Nat} (h : dimOf ds = some (some k)) : k < 2 ^ 32 := by
  unfold dimOf at h
  split at h
  · cases h
  · obtain ⟨hlt, heq⟩ := Option.ite_none_right_eq_some.1 h
    cases heq; exact hlt

theorem arrayDims_valid : ∀ (f : Nat) (s : List Char) (dims : List (Option Nat)), arrayDims f s = some dims →
    ∀ k, some k ∈ dims → k < 2 ^ 32 := by
  intro f s
  fun_induction arrayDims f s with
  | case3 fuel rest ds more hdw dim d r hr hd ih =>
    intro dims h k hk
    cases h
    rcases List.mem_cons.1 hk with rfl | hk
    · exact dimOf_lt hd
    · exact ih r hr k hk
  | case2 => intro dims h k hk; cases h; cases hk
  | _ => intro dims h; cases h

/-- the text between the brackets of a rendered dimension -/
def dimText : Option Nat → List Char
  | none => []
  | some k => formatUint k

theorem renderDims_cons (d : Option Nat) (r : List (Option Nat)) :
    (renderDims (d :: r)).toList = '[' :: (dimText d ++ ']' :: (renderDims r).toList) := by
  cases d <;> simp [renderDims, dimText, formatUint, String.toList_append]

theorem dimOf_dimText (d : Option Nat) (h : ∀ k, d = some k → k < 2 ^ 32) :
    dimOf (dimText d) = some d ∧ ∀ c ∈ dimText d, isDigit c = true := by
  cases d with
  | none => exact ⟨rfl, nofun⟩
  | some k =>
    obtain ⟨c, t, hct, hd, _⟩ := canonical_iff.1 (canonical_format k)
    have hne : (formatUint k).isEmpty = false := by rw [hct]; rfl
    exact ⟨by simp only [dimOf, dimText, hne, decVal_format, h k rfl, if_true, Bool.false_eq_true, if_false], hd⟩

theorem arrayDims_render : ∀ (dims : List (Option Nat)) (f : Nat), (∀ k, some k ∈ dims → k < 2 ^ 32) →
    (renderDims dims).toList.length < f → arrayDims f (renderDims dims).toList = some dims
  | _, 0, _, hl => by simp at hl
  | [], _ + 1, _, _ => by simp [renderDims, arrayDims]
  | d :: r, j + 1, hv, hl => by
    obtain ⟨hd, hdig⟩ := dimOf_dimText d (fun k hk => hv k (by simp [hk]))
    rw [renderDims_cons] at hl ⊢
    rw [arrayDims_group j _ _ hdig, hd,
      arrayDims_render r j (fun k hk => hv k (by simp [hk])) (by simp at hl ⊢; omega)]
    rfl

mutual
  /-- the type string of a parsed tree: what a JSON ABI writes in `type` -/
  def typeStr : Ty → String
    | .elem info sfx _ _ => info.name ++ sfx
    | .farr c k => typeStr c ++ "[" ++ toString k ++ "]"
    | .darr c => typeStr c ++ "[]"
    | .tuple _ _ => "tuple"
  /-- ... and its `components` -/
  def compsOf : Ty → List Param
    | .elem _ _ _ _ => []
    | .farr c _ => compsOf c
    | .darr c => compsOf c
    | .tuple names ts => paramsOf names ts
  def paramsOf : List String → List Ty → List Param
    | n :: ns, t :: ts => .mk n (typeStr t) false "" (compsOf t) :: paramsOf ns ts
    | _, _ => []
end

theorem typeStr_wrap (dims : List (Option Nat)) (c : Ty) : typeStr (wrap c dims) = typeStr c ++ renderDims dims :=
  spell_wrap typeStr (fun _ _ => by rw [typeStr]) (fun _ => by rw [typeStr]) dims c

theorem compsOf_wrap : ∀ (dims : List (Option Nat)) (c : Ty), compsOf (wrap c dims) = compsOf c
  | [], _ => rfl
  | d :: r, c => by rw [wrap_cons, compsOf_wrap r]; cases d <;> rw [wrap1, compsOf]

/-- how the model cuts `B ++ D` when `B` has no bracket and `D` is empty or starts with one -/
theorem model_split (B D : List Char) (hB : ∀ c ∈ B, (c != '[') = true) (hD : D = [] ∨ ∃ rest, D = '[' :: rest) :
    (B ++ D).takeWhile isLower = B.takeWhile isLower ∧
    ((B ++ D).drop (B.takeWhile isLower).length).takeWhile (· != '[') = B.drop (B.takeWhile isLower).length ∧
    ((B ++ D).drop (B.takeWhile isLower).length).dropWhile (· != '[') = D := by
  have hD1 : ∀ x ∈ D.head?, (x != '[') = false := by
    rcases hD with rfl | ⟨r, rfl⟩
    · nofun
    · simp
  obtain ⟨et, sfx, rfl, het, hsfx⟩ := Lemmas.span_exists isLower B
  have hcut := Lemmas.span_eq (b := D) (fun c hc => hB c (List.mem_append_right et hc)) hD1
  rw [(Lemmas.span_eq het hsfx).1, List.append_assoc, List.drop_left, List.drop_left]
  refine ⟨(Lemmas.span_eq het fun x hx => ?_).1, hcut⟩
  cases sfx with
  | nil => rcases hD with rfl | ⟨r, rfl⟩
           · cases hx
           · cases hx; decide
  | cons c t => exact hsfx x hx

/-- what an accepted effective suffix looks like: empty, or starting with a digit; never a bracket -/
def SuffixOK (s : List Char) : Prop :=
  (s = [] ∨ ∃ c t, s = c :: t ∧ isDigit c = true) ∧ ∀ c ∈ s, (c != '[') = true

theorem suffixOK_append {a b : List Char} (hne : a ≠ []) (ha : ∀ c ∈ a, isDigit c = true)
    (hb : ∀ c ∈ b, (c != '[') = true) : SuffixOK (a ++ b) := by
  refine ⟨?_, fun c hc => (List.mem_append.1 hc).elim (fun h => (isDigit_sep (ha c h)).2.1) (hb c)⟩
  cases a with
  | nil => exact absurd rfl hne
  | cons c t => exact Or.inr ⟨c, t ++ b, rfl, ha c (by simp)⟩

theorem parseM_digits {info : ElemInfo} {s : List Char} {m : Nat} (h : parseM info s = some m) :
    s ≠ [] ∧ ∀ c ∈ s, isDigit c = true := by
  obtain ⟨c, t, rfl, hd, _⟩ := canonical_iff.1 (parseM_eq_some.1 h).1.1
  exact ⟨nofun, hd⟩

/-- what `elementaryOf` accepts, whatever the suffix type of the row: no suffix and the row's default M, a suffix read as
    M, or a suffix read as MxN -/
theorem elementaryOf_ok {info : ElemInfo} {suffix : List Char} {tc : Ty} (h : elementaryOf info suffix = .ok tc) :
    (suffix = [] ∧ tc = .elem info "" info.defaultM 0) ∨
    (∃ m, parseM info suffix = some m ∧ tc = .elem info (String.ofList suffix) m 0) ∨
    (∃ m n, parseMxN info suffix = some (m, n) ∧ tc = .elem info (String.ofList suffix) m n) := by
  unfold elementaryOf at h
  cases hst : info.suffixType <;> rw [hst] at h <;> dsimp only at h <;> split at h
  case none.isTrue he | mOptional.isTrue he => cases h; exact .inl ⟨List.isEmpty_iff.1 he, rfl⟩
  case mOptional.isFalse | mRequired.isFalse =>
    split at h
    · next m hm => cases h; exact .inr (.inl ⟨m, hm, rfl⟩)
    · cases h
  case mxnRequired.isFalse =>
    split at h
    · next m n hmn => cases h; exact .inr (.inr ⟨m, n, hmn, rfl⟩)
    · cases h
  all_goals cases h

/-- the elementary branch returns its row with the effective suffix, M the row's default or within its limit
    (`Props.C14` bounds the encoder's width by this), and that suffix is well shaped -/
theorem elementaryOf_shape (info : ElemInfo) (suffix : List Char) (tc : Ty) (h : elementaryOf info suffix = .ok tc) :
    (∃ m n, tc = .elem info (String.ofList suffix) m n ∧ (m = info.defaultM ∨ m ≤ info.mMax)) ∧ SuffixOK suffix := by
  rcases elementaryOf_ok h with ⟨rfl, rfl⟩ | ⟨m, hm, rfl⟩ | ⟨m, k, hmk, rfl⟩
  · exact ⟨⟨_, _, rfl, .inl rfl⟩, .inl rfl, nofun⟩
  · have := suffixOK_append (b := []) (parseM_digits hm).1 (parseM_digits hm).2 nofun
    exact ⟨⟨_, _, rfl, .inr (parseM_eq_some.1 hm).2.2.1⟩, by rwa [List.append_nil] at this⟩
  · -- the suffix is `tw ++ 'x' :: n` with `tw`, `n` accepted as M and N
    obtain ⟨tw, after, rfl, htw, hafter⟩ := Lemmas.span_exists (· != 'x') suffix
    rw [parseMxN_eq, (Lemmas.span_eq htw hafter).1, (Lemmas.span_eq htw hafter).2] at hmk
    cases after with
    | nil => cases hmk
    | cons x n =>
      have hx : x = 'x' := by simpa using hafter x rfl
      dsimp only at hmk
      match hm : parseM info tw, hn : parseN info n, hmk with
      | some m, some k, rfl =>
        refine ⟨⟨_, _, rfl, .inr (parseM_eq_some.1 hm).2.2.1⟩,
          suffixOK_append (parseM_digits hm).1 (parseM_digits hm).2 fun c hc => ?_⟩
        rcases List.mem_cons.1 hc with rfl | hc
        · rw [hx]; decide
        · exact (isDigit_sep ((parseM_digits (parseN_eq_parseM info n ▸ hn)).2 c hc)).2.1

theorem parseElementary_ok {et s0 : List Char} {tc : Ty} (h : parseElementary et s0 = .ok tc) :
    ∃ info, table.find? (fun i => i.name == String.ofList et) = some info ∧
      elementaryOf info (if s0.isEmpty then info.defaultSuffix.toList else s0) = .ok tc := by
  unfold parseElementary at h
  cases hf : table.find? (fun i => i.name == String.ofList et) with
  | none => rw [hf] at h; cases h
  | some info => exact ⟨info, rfl, by rwa [hf] at h⟩

/-- the elementary branch gives the same answer when handed its own effective suffix -/
theorem parseElementary_again (et s0 : List Char) (tc : Ty) (h : parseElementary et s0 = .ok tc) :
    ∃ info sfx m n, tc = .elem info sfx m n ∧ info.name = String.ofList et ∧ SuffixOK sfx.toList ∧
      parseElementary et sfx.toList = .ok tc := by
  obtain ⟨info, hf, he⟩ := parseElementary_ok h
  obtain ⟨⟨m, n, htc, _⟩, hok⟩ := elementaryOf_shape info _ tc he
  refine ⟨info, String.ofList (if s0.isEmpty then info.defaultSuffix.toList else s0), m, n, htc,
    by simpa using List.find?_some hf, by simpa using hok, ?_⟩
  -- the effective suffix of the effective suffix is itself
  have : (if (if s0.isEmpty then info.defaultSuffix.toList else s0).isEmpty then info.defaultSuffix.toList
          else (if s0.isEmpty then info.defaultSuffix.toList else s0)) = (if s0.isEmpty then info.defaultSuffix.toList else s0) := by
    by_cases h0 : s0.isEmpty = true <;> simp [h0]
  rw [parseElementary, hf]
  simp only [String.toList_ofList, this]
  exact he

theorem parseParams_cons_ok {p : Param} {ps : List Param} {ts : List Ty} (h : parseParams (p :: ps) = .ok ts) :
    ∃ t ts', parseParam p = .ok t ∧ parseParams ps = .ok ts' ∧ ts = t :: ts' := by
  rw [parseParams] at h
  match parseParam p, parseParams ps, h with
  | .ok t, .ok ts', rfl => exact ⟨t, ts', rfl, rfl, rfl⟩

theorem paramsOf_names : ∀ (ps : List Param) (ts : List Ty), parseParams ps = .ok ts →
    (paramsOf (ps.map Param.name) ts).map Param.name = ps.map Param.name
  | [], _, _ => by simp [paramsOf]
  | p :: ps, _, h => by
    obtain ⟨t, ts', _, hps, rfl⟩ := parseParams_cons_ok h
    simp only [List.map_cons, paramsOf, Param.name, paramsOf_names ps ts' hps]

/-- what a successful parse consists of: a base type (tuple of the parsed components, or a table row) wrapped in the
    dimensions the grammar reads off the array part -/
theorem parse_decompose (name type : String) (idx : Bool) (it : String) (comps : List Param) (t : Ty)
    (h : parseParam (.mk name type idx it comps) = .ok t) :
    ∃ tc dims, t = wrap tc dims ∧ (∀ k, some k ∈ dims → k < 2 ^ 32) ∧
      ((∃ ts, tc = .tuple (comps.map Param.name) ts ∧ parseParams comps = .ok ts) ∨
       (∃ et s0, (∀ c ∈ et, isLower c = true) ∧ String.ofList et ≠ "tuple" ∧ parseElementary et s0 = .ok tc)) := by
  rw [parseParam_eq] at h
  simp only [] at h
  match hb : baseOf _ _ comps, hd : arrayDims _ _, h with
  | .ok tc, some dims, rfl =>
    refine ⟨tc, dims, rfl, arrayDims_valid _ _ _ hd, (baseOf_ok hb).imp_right fun ⟨hnt, he⟩ => ?_⟩
    exact ⟨_, _, fun _ hc => List.all_eq_true.1 List.all_takeWhile _ hc, hnt, he⟩

theorem wrap_elem {i : ElemInfo} {sfx : String} {m n : Nat} : ∀ (dims : List (Option Nat)) (c : Ty),
    wrap c dims = .elem i sfx m n → dims = [] ∧ c = .elem i sfx m n
  | [], _, h => ⟨rfl, h⟩
  | d :: r, c, h => by
    rw [wrap_cons] at h
    cases d <;> cases (wrap_elem r _ h).2

theorem parseParam_elem {p : Param} {i : ElemInfo} {sfx : String} {m n : Nat} (h : parseParam p = .ok (.elem i sfx m n)) :
    i ∈ table ∧ (m = i.defaultM ∨ m ≤ i.mMax) := by
  obtain ⟨name, type, idx, it, comps⟩ := p
  obtain ⟨tc, dims, ht, _, hb⟩ := parse_decompose _ _ _ _ _ _ h
  obtain ⟨rfl, rfl⟩ := wrap_elem dims tc ht.symm
  rcases hb with ⟨ts, htc, _⟩ | ⟨et, s0, _, _, he⟩
  · cases htc
  · obtain ⟨info, hf, he⟩ := parseElementary_ok he
    obtain ⟨⟨m', n', htc, hm⟩, _⟩ := elementaryOf_shape info _ _ he
    cases htc
    exact ⟨List.mem_of_find?_eq_some hf, hm⟩

/-- re-parsing a definition written from a base type `tc`, spelled `et ++ sfx`, and dimensions `dims` -/
theorem parse_written (nm : String) (ix : Bool) (it : String) (comps : List Param) (et sfx : List Char) (tc : Ty)
    (dims : List (Option Nat)) (het : ∀ c ∈ et, isLower c = true) (hsfx : SuffixOK sfx)
    (hts : (typeStr tc).toList = et ++ sfx) (hb : baseOf et sfx comps = .ok tc) (hv : ∀ k, some k ∈ dims → k < 2 ^ 32) :
    parseParam (.mk nm (typeStr (wrap tc dims)) ix it comps) = .ok (wrap tc dims) := by
  have hstr : typeStr (wrap tc dims) = String.ofList (et ++ sfx ++ (renderDims dims).toList) := by
    rw [typeStr_wrap, ← hts]; apply String.ext; simp
  have hB : ∀ c ∈ et ++ sfx, (c != '[') = true := fun c hc =>
    (List.mem_append.1 hc).elim (fun hc => lower_ne_open (het c hc)) (hsfx.2 c)
  have hD : (renderDims dims).toList = [] ∨ ∃ rest, (renderDims dims).toList = '[' :: rest := by
    cases dims with
    | nil => exact Or.inl (by simp [renderDims])
    | cons d r => exact Or.inr ⟨_, renderDims_cons d r⟩
  have htw : (et ++ sfx).takeWhile isLower = et := by
    refine (Lemmas.span_eq het fun c hc => ?_).1
    rcases hsfx.1 with h0 | ⟨c', t, h0, hd⟩
    · rw [h0] at hc; cases hc
    · rw [h0] at hc; cases hc; exact (isDigit_sep hd).2.2
  obtain ⟨h1, h2, h3⟩ := model_split _ _ hB hD
  rw [htw] at h1 h2 h3
  rw [List.drop_left] at h2
  rw [hstr, parseParam_eq]
  simp only [String.toList_ofList, h1, h2, h3, hb, arrayDims_render dims _ hv (Nat.lt_succ_self _)]
  rfl

mutual
  /-- C13, idempotence: a definition that parses, written back out (type string and components), parses to the same tree -/
  theorem reparse : ∀ (p : Param) (t : Ty) (nm : String) (ix : Bool) (it : String), parseParam p = .ok t →
      parseParam (.mk nm (typeStr t) ix it (compsOf t)) = .ok t
    | .mk name type idx it0 comps, t, nm, ix, it, h => by
      obtain ⟨tc, dims, rfl, hv, ⟨ts, rfl, hp⟩ | ⟨et, s0, hlow, hnt, hpe⟩⟩ := parse_decompose name type idx it0 comps t h
      · -- the keyword `tuple`, no suffix, and the components written back
        have hb : baseOf ['t', 'u', 'p', 'l', 'e'] [] (paramsOf (comps.map Param.name) ts) =
            .ok (.tuple (comps.map Param.name) ts) := by
          rw [baseOf, if_pos (by decide), if_neg (by decide), reparse_list comps ts hp, paramsOf_names comps ts hp]
        rw [compsOf_wrap]
        exact parse_written nm ix it _ _ [] _ dims (by decide) ⟨Or.inl rfl, nofun⟩ (by simp [typeStr]) hb hv
      · -- the table's name and the effective suffix
        obtain ⟨info, sfx, m, n, rfl, hname, hsfx, hagain⟩ := parseElementary_again et s0 _ hpe
        have hk : (String.ofList et == tupleTypeString) = false := by simpa [tuple_keyword] using hnt
        rw [compsOf_wrap]
        exact parse_written nm ix it [] et sfx.toList _ dims hlow hsfx (by simp [typeStr, hname])
          (by rw [baseOf, hk]; exact hagain) hv
  theorem reparse_list : ∀ (ps : List Param) (ts : List Ty), parseParams ps = .ok ts →
      parseParams (paramsOf (ps.map Param.name) ts) = .ok ts
    | [], _, h => by cases h; rfl
    | p :: ps, _, h => by
      obtain ⟨t, ts', hp, hps, rfl⟩ := parseParams_cons_ok h
      simp only [List.map_cons, paramsOf, parseParams]
      rw [reparse p t p.name false "" hp, reparse_list ps ts' hps]
end

def tupleFree : Ty → Bool
  | .elem _ _ _ _ => true
  | .farr c _ => tupleFree c
  | .darr c => tupleFree c
  | .tuple _ _ => false

theorem typeStr_render : ∀ t : Ty, tupleFree t = true → typeStr t = render t ∧ compsOf t = []
  | .elem _ _ _ _, _ => by simp [typeStr, render, compsOf]
  | .farr c k, h => by
    have := typeStr_render c (by simpa [tupleFree] using h)
    simp [typeStr, render, compsOf, this.1, this.2]
  | .darr c, h => by
    have := typeStr_render c (by simpa [tupleFree] using h)
    simp [typeStr, render, compsOf, this.1, this.2]
  | .tuple _ _, h => by simp [tupleFree] at h

/-- **Idempotence on rendered signatures**: for an accepted tuple-free type, parsing the rendered signature yields the
    same tree. (For tuples the signature `(a,b)` is not itself a JSON-ABI type string; `reparse` is the statement over the
    written-back definition: keyword `tuple`, the dimensions, and the components written back recursively.) -/
theorem reparse_rendered (p : Param) (t : Ty) (nm : String) (ix : Bool) (it : String)
    (h : parseParam p = .ok t) (hf : tupleFree t = true) : parseParam (.mk nm (render t) ix it []) = .ok t := by
  have := reparse p t nm ix it h
  rw [(typeStr_render t hf).1, (typeStr_render t hf).2] at this
  exact this

/-- … and normalisation is idempotent: the canonical spelling of the re-parsed definition is the same spelling -/
theorem canonical_idempotent (p : Param) (t : Ty) (h : parseParam p = .ok t) :
    canon (toP (.mk p.name (typeStr t) false "" (compsOf t))) = some (render t) :=
  rendered_is_canonical _ t (reparse p t p.name false "" h)

def okB {α : Type} : Outcome α → Bool | .ok _ => true | _ => false
/-- non-vacuity: canonical spellings are accepted, non-canonical and out-of-range ones are not -/
example : (okB (parseParam (.mk "a" "uint256[2][]" false "" [])) &&
           okB (parseParam (.mk "a" "tuple[]" false "" [.mk "x" "bytes32" false "" [], .mk "y" "fixed128x18" false "" []])) &&
           !okB (parseParam (.mk "a" "uint0256" false "" [])) &&
           !okB (parseParam (.mk "a" "uint257" false "" [])) &&
           !okB (parseParam (.mk "a" "uint256[" false "" []))) = true := by decide +kernel
/-- non-vacuity of `reparse`: an aliased nested tuple array (`uint` for `uint256`) is accepted -/
example : okB (parseParam (.mk "a" "tuple[2][]" false "" [.mk "x" "uint" false "" [], .mk "y" "tuple" false "" [.mk "z" "bytes" false "" []]])) = true := by
  decide +kernel

end FFS.Props.C13
