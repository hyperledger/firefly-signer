/-
  Property C18 — RPC clients pair each reply with its request under concurrency and reconnects.
  Model: FFS.Model.RpcClients (Http: SyncRequest's semaphore / id counter / id restoration; Ws: the tables of
  wsRPCClient with every critical section one atomic step, the reconnect callback and the confirmation handler
  split where the code releases the lock in between).
  A statement about `run` / `Reach` is about every interleaving of callers, the receive loop and the reconnect
  callback that the lock discipline (`facts`) allows; the others describe one step from an arbitrary state.
  Two invariants carry the WebSocket part: `IdInv` (ids are the counter's, each once) and `Own` (one server
  relationship per subscription; every reachable state has it: `own_reach`), the latter handled one subscription
  at a time (`OwnRec`).
-/
import FFS.Model.RpcClients
import FFS.Lemmas.Assoc
namespace FFS.Props.C18
open FFS.Model.RpcClients FFS.Gen.RpcFacts

/-- the regenerated facts: guards present, every table access under rc.mux and none from a spawned goroutine,
    all five tables covered -/
theorem facts :
    initialSubscribeGuard = true ∧ unconfiguredSkipped = true ∧ stalePendingDropped = true ∧
    activateChecksConfigured = true ∧ popPendingFirst = true ∧ reconnectFailsCalls = true ∧
    clearResetsTables = true ∧ callChannelBuffered = true ∧
    httpSlotBeforeId = true ∧ httpIdAtomic = true ∧ httpCopiesRequest = true ∧
    wsLockTable.all (fun r => r.2.2.1 && !r.2.2.2) = true ∧
    (["calls", "pendingSubsByReqID", "activeSubsBySubID", "configuredSubs", "requestCounter"].all fun f =>
      wsLockTable.any fun r => r.2.1 == f) = true := by decide +kernel

/-- ids handed out by a counter that now stands at `n`: pairwise distinct, none beyond `n` -/
def Fresh (n : Nat) (l : List Nat) : Prop := l.Nodup ∧ ∀ x ∈ l, x ≤ n

theorem Fresh.nil (n : Nat) : Fresh n [] := ⟨List.nodup_nil, nofun⟩

theorem Fresh.sublist {n : Nat} {l l' : List Nat} (h : Fresh n l) (hs : l'.Sublist l) : Fresh n l' :=
  ⟨h.1.sublist hs, fun x hx => h.2 x (hs.subset hx)⟩

/-- the next id goes anywhere in the list -/
theorem Fresh.insert {n : Nat} {l₁ l₂ : List Nat} (h : Fresh n (l₁ ++ l₂)) : Fresh (n + 1) (l₁ ++ (n + 1) :: l₂) := by
  refine ⟨List.perm_middle.nodup_iff.mpr (List.nodup_cons.mpr ⟨fun hm => ?_, h.1⟩), fun x hx => ?_⟩
  · have := h.2 _ hm; omega
  · rcases List.perm_middle.mem_iff.mp hx with _ | ⟨_, hx⟩
    · omega
    · have := h.2 x hx; omega

theorem range_one_snoc (n : Nat) : List.range' 1 n ++ [n + 1] = List.range' 1 (n + 1) := by
  rw [List.range'_1_concat, Nat.add_comm]

namespace Http
open FFS.Model.RpcClients.Http

structure Inv (s : St) : Prop where
  bound : ∀ l, s.limit = some l → s.inflight.length ≤ l
  issued : s.issued = List.range' 1 s.counter
  ownId : ∀ p ∈ s.done, p.2 = p.1

theorem inv_init (limit : Option Nat) : Inv (init limit) :=
  ⟨fun l _ => Nat.zero_le l, rfl, by simp [init]⟩

theorem ownId_snoc {d : List (Nat × Nat)} (h : ∀ p ∈ d, p.2 = p.1) (c : Nat) : ∀ p ∈ d ++ [(c, c)], p.2 = p.1 := by
  intro p hp
  rcases List.mem_append.mp hp with hp | hp
  · exact h p hp
  · rw [List.mem_singleton.mp hp]

theorem inv_step (s : St) (op : Op) (h : Inv s) : Inv (step s op) := by
  cases op with
  | arrive c => exact ⟨h.bound, h.issued, h.ownId⟩
  | acquire c =>
    simp only [step]
    split
    · rename_i hc
      refine ⟨fun l hl => ?_, by rw [← range_one_snoc, ← h.issued], h.ownId⟩
      have hlt : canAcquire s = true := (Bool.and_eq_true _ _ ▸ hc).2
      unfold canAcquire at hlt
      rw [hl] at hlt
      rw [List.length_append]
      exact of_decide_eq_true hlt
    · exact h
  | cancel c =>
    simp only [step]
    split
    · exact ⟨h.bound, h.issued, ownId_snoc h.ownId c⟩
    · exact h
  | reply beId e =>
    simp only [step]
    split
    · exact ⟨fun l hl => Nat.le_trans (List.length_filter_le _ _) (h.bound l hl), h.issued, ownId_snoc h.ownId _⟩
    · exact h

theorem step_limit (s : St) (op : Op) : (step s op).limit = s.limit := by
  cases op <;> simp only [step] <;> split <;> rfl

theorem inv_run {s : St} (h : Inv s) (ops : List Op) : Inv (run s ops) ∧ (run s ops).limit = s.limit :=
  List.foldlRecOn ops step (motive := fun t => Inv t ∧ t.limit = s.limit) ⟨h, rfl⟩
    fun t ht op _ => ⟨inv_step t op ht.1, (step_limit t op).trans ht.2⟩

/-- **Never more requests outstanding at the backend than the configured limit**, under every schedule of
    arrivals, slot acquisitions, cancellations and replies. -/
theorem inflight_le_limit (l : Nat) (ops : List Op) : (run (init (some l)) ops).inflight.length ≤ l :=
  (inv_run (inv_init _) ops).1.bound l (inv_run (inv_init _) ops).2

/-- **Every backend request gets a unique id.** -/
theorem ids_unique (limit : Option Nat) (ops : List Op) : (run (init limit) ops).issued.Nodup :=
  (inv_run (inv_init limit) ops).1.issued ▸ List.nodup_range'

/-- **Each caller gets a response carrying its own id, whatever id the backend echoed.** -/
theorem own_id (limit : Option Nat) (ops : List Op) : ∀ p ∈ (run (init limit) ops).done, p.2 = p.1 :=
  (inv_run (inv_init limit) ops).1.ownId

/-- the reply of the exchange that carried backend id `beId` completes the caller that sent it, and only that one -/
theorem reply_completes_requester (s : St) (beId echoed c : Nat) (h : s.inflight.find? (·.1 == beId) = some (beId, c)) :
    (step s (.reply beId echoed)).done = s.done ++ [(c, c)] := by
  simp [step, h]

end Http

namespace Ws
open FFS.Model.RpcClients.Ws

def sentOf : Ev → Option Nat
  | .sentCall id _ => some id
  | .sentSub id _ => some id
  | _ => none

/-- ids of the frames written so far, in order -/
def sentIds (s : St) : List Nat := s.log.filterMap sentOf

/-- The frames written carry the ids 1, …, counter, in this order; the two request tables taken together (`popInflight`
    looks an id up in both, so they are one id space) carry ids of the counter, each at most once. -/
structure IdInv (s : St) : Prop where
  sent : sentIds s = List.range' 1 s.counter
  tables : Fresh s.counter ((s.calls ++ s.pending).map (·.1))

theorem idInv_init (re : Bool) : IdInv (init re) := ⟨rfl, .nil 0⟩

theorem IdInv.shrink {s s' : St} (h : IdInv s) (hc : s'.counter = s.counter) (hl : sentIds s' = sentIds s)
    (h1 : s'.calls.Sublist s.calls) (h2 : s'.pending.Sublist s.pending) : IdInv s' :=
  ⟨by rw [hc, hl]; exact h.sent, by rw [hc]; exact h.tables.sublist ((h1.append h2).map _)⟩

theorem IdInv.alloc {s s' : St} (h : IdInv s) (hc : s'.counter = s.counter + 1)
    (hl : sentIds s' = sentIds s ++ [s.counter + 1]) {t₁ t₂ : List (Nat × Nat)} {x : Nat}
    (ht : s'.calls ++ s'.pending = t₁ ++ (s.counter + 1, x) :: t₂) (hs : (t₁ ++ t₂).Sublist (s.calls ++ s.pending)) :
    IdInv s' := by
  refine ⟨by rw [hc, hl, h.sent, range_one_snoc], ?_⟩
  rw [hc, ht, List.map_append, List.map_cons]
  exact Fresh.insert (by rw [← List.map_append]; exact h.tables.sublist (hs.map _))

theorem sentIds_quiet {s s' : St} {es : List Ev} (h : s'.log = s.log ++ es) (hes : es.filterMap sentOf = []) :
    sentIds s' = sentIds s := by
  simp [sentIds, h, hes]

/-- `removeSubscription` and `stalePending` on one table: the entry registered under the recorded id, if any, goes -/
theorem dropKey_sublist {t : List (Nat × Nat)} {o : Option Nat} :
    (match o with | some k => t.filter fun (q : Nat × Nat) => q.1 != k | none => t).Sublist t := by
  split
  · exact List.filter_sublist
  · exact .refl _

theorem mem_dropKey {t : List (Nat × Nat)} {o : Option Nat} {p : Nat × Nat}
    (h : p ∈ (match o with | some k => t.filter fun (q : Nat × Nat) => q.1 != k | none => t)) : p ∈ t ∧ o ≠ some p.1 := by
  split at h
  · exact ⟨(List.mem_filter.mp h).1, fun e => by simpa [Option.some.inj e] using (List.mem_filter.mp h).2⟩
  · exact ⟨h, nofun⟩

theorem stalePending_sublist (s : St) (l : Nat) : (stalePending s l).Sublist s.pending := by
  unfold stalePending
  split
  · exact dropKey_sublist
  · exact .refl _

theorem idInv_addInflightSub (s : St) (l : Nat) (initial : Bool) (h : IdInv s) : IdInv (addInflightSub s l initial) := by
  unfold addInflightSub
  split
  · exact h
  · refine h.alloc rfl (by simp [sentIds, allocSub, sentOf]) (t₁ := s.calls ++ stalePending s l) (t₂ := []) (x := l) (by simp [allocSub]) ?_
    rw [List.append_nil]
    exact (List.Sublist.refl _).append (stalePending_sublist s l)

theorem idInv_afterPop (s : St) (l : Nat) (w : Bool) (r : Reply) (h : IdInv s) : IdInv (afterPop s l w r) := by
  unfold afterPop
  split
  · exact h.shrink rfl rfl (.refl _) (.refl _)
  · exact h.shrink rfl (sentIds_quiet rfl (by cases w <;> rfl)) (.refl _) (.refl _)

theorem idInv_step (s : St) (op : Op) (h : IdInv s) : IdInv (step s op) := by
  cases op with
  | call c =>
    exact h.alloc rfl (by simp [sentIds, step, sentOf]) (t₁ := s.calls) (t₂ := s.pending) (x := c) (by simp [step]) (.refl _)
  | cancelCall id =>
    simp only [step]
    split
    · exact h.shrink rfl (sentIds_quiet rfl rfl) List.filter_sublist (.refl _)
    · exact h
  | subscribe l =>
    simp only [step]
    split
    · exact h
    · exact h.shrink rfl rfl (.refl _) (.refl _)
  | sendSubscribe l => exact idInv_addInflightSub s l true h
  | reply id r =>
    simp only [step]
    split
    · exact idInv_afterPop _ _ _ _ (h.shrink rfl rfl (.refl _) List.filter_sublist)
    · split
      · exact h.shrink rfl (sentIds_quiet rfl rfl) List.filter_sublist (.refl _)
      · exact h.shrink rfl (sentIds_quiet rfl rfl) (.refl _) (.refl _)
  | activate =>
    simp only [step]
    split
    · exact h
    · rename_i w _
      split <;> exact h.shrink rfl (sentIds_quiet rfl (by cases w <;> rfl)) (.refl _) (.refl _)
  | notify sid =>
    simp only [step]
    split <;> exact h.shrink rfl (sentIds_quiet rfl rfl) (.refl _) (.refl _)
  | reconnectClear order =>
    simp only [step]
    split
    · exact h
    · refine h.shrink rfl (sentIds_quiet rfl (List.filterMap_eq_nil_iff.mpr fun e he => ?_)) (List.nil_sublist _) (List.nil_sublist _)
      obtain ⟨p, _, rfl⟩ := List.mem_map.mp he
      rfl
  | resubscribe =>
    simp only [step]
    split
    · exact h
    · exact idInv_addInflightSub _ _ false ⟨h.sent, h.tables⟩
  | unsubscribe l =>
    simp only [step]
    exact h.shrink rfl rfl (.refl _) dropKey_sublist

theorem idInv_reach {re : Bool} {s : St} (h : Reach re s) : IdInv s := by
  induction h with
  | init => exact idInv_init re
  | step op _ _ ih => exact idInv_step _ op ih

/-- **Every request written to the socket carries an id no earlier request carried**, under every schedule. -/
theorem ids_unique {re : Bool} {s : St} (h : Reach re s) : (sentIds s).Nodup :=
  (idInv_reach h).sent ▸ List.nodup_range'

/-- **Reply pairing.** In any reachable state, a reply frame with id `id` is handed to the caller whose request
    carried `id` — exactly that caller, with the outcome in the frame — and the entry is gone, so a duplicate of the
    frame completes nobody. The order in which replies arrive plays no role. -/
theorem reply_goes_to_requester {re : Bool} {s : St} (h : Reach re s) (id c : Nat) (r : Reply) (hc : (id, c) ∈ s.calls) :
    (step s (.reply id r)).log = s.log ++ [.completed c id (match r with | .result _ => true | .error => false)] ∧
    (step s (.reply id r)).calls = s.calls.filter (·.1 != id) ∧
    (∀ c', (id, c') ∉ (step s (.reply id r)).calls) := by
  have inv := (idInv_reach h).tables.1
  rw [List.map_append, List.nodup_append] at inv
  have hnp : s.pending.find? (·.1 == id) = none := Assoc.find?_eq_none.mpr fun q hq e =>
    inv.2.2 id (List.mem_map.mpr ⟨_, hc, rfl⟩) q.1 (List.mem_map.mpr ⟨q, hq, rfl⟩) e.symm
  simp only [step, hnp, Assoc.find?_of_mem inv.1 hc]
  refine ⟨rfl, trivial, fun c' hmem => ?_⟩
  simpa using (List.mem_filter.mp hmem).2

/-- a reply whose id answers no outstanding request (unknown, stale, duplicate) changes no table and completes nobody -/
theorem unknown_reply_ignored (s : St) (id : Nat) (r : Reply)
    (h1 : ∀ p ∈ s.pending, p.1 ≠ id) (h2 : ∀ p ∈ s.calls, p.1 ≠ id) :
    step s (.reply id r) = { s with log := s.log ++ [.dropped] } := by
  simp only [step, Assoc.find?_eq_none.mpr h1, Assoc.find?_eq_none.mpr h2]

/-- **Reconnect fails every outstanding call.** With reconnection enabled, the first half of the reconnect callback
    hands an error to every caller whose request was outstanding, and leaves no call, no pending request and no
    active server id of the old connection behind. -/
theorem reconnect_fails_all (s : St) (order : List Nat) (hre : s.reconnectEnabled = true) :
    let s' := step s (.reconnectClear order)
    (∀ p ∈ s.calls, Ev.completed p.2 p.1 false ∈ s'.log) ∧ s'.calls = [] ∧ s'.pending = [] ∧ s'.active = [] ∧
    s'.resubQueue = order.filter s.configured.contains := by
  simp only [step, hre, Bool.not_true, Bool.false_eq_true, if_false, clearAll]
  exact ⟨fun p hp => List.mem_append_right _ (List.mem_map.mpr ⟨p, hp, rfl⟩), trivial, trivial, trivial, trivial⟩

/-- the callback's loop body issues one eth_subscribe for the next subscription of the queue if it is still
    configured, and nothing for one that has been unsubscribed meanwhile -/
theorem resubscribe_one (s : St) (l : Nat) (rest : List Nat) (hq : s.resubQueue = l :: rest) :
    let s' := step s .resubscribe
    s'.resubQueue = rest ∧
    ((l ∈ s.configured → s'.log = s.log ++ [.sentSub (s.counter + 1) l] ∧ (s.counter + 1, l) ∈ s'.pending) ∧
     (l ∉ s.configured → s'.log = s.log ∧ s'.pending = s.pending)) := by
  simp only [step, hq, addInflightSub, skipSub, facts.2.1, Bool.false_and, Bool.false_or, Bool.true_and]
  by_cases hc : l ∈ s.configured
  · simp [hc, allocSub]
  · simp [hc]

/-- every helper that writes the record of `l` does it this way -/
theorem getSub_set {s s' : St} {l : Nat} {r : SubRec} (h : s'.subs = (l, r) :: s.subs.filter (·.1 != l)) (l' : Nat) :
    getSub s' l' = if l = l' then r else getSub s l' := by
  unfold getSub
  rw [h, Assoc.find?_set]
  split <;> rfl

theorem getSub_default {s : St} {l : Nat} (h : ∀ p ∈ s.subs, p.1 ≠ l) : getSub s l = {} := by
  unfold getSub
  rw [Assoc.find?_eq_none.mpr h]
  rfl

theorem getSub_clearAll (s : St) (order : List Nat) (l : Nat) :
    getSub (clearAll s order) l =
      if s.configured.contains l then { getSub s l with pendingReq := none, current := none } else getSub s l := by
  unfold getSub
  show (((resetSubs s).find? (·.1 == l)).map (·.2)).getD {} = _
  rw [resetSubs, Assoc.find?_map _ (fun p => by split <;> rfl)]
  cases hf : s.subs.find? (·.1 == l) with
  | none => split <;> rfl
  | some p =>
    obtain ⟨rfl, _⟩ := Assoc.of_find? hf
    by_cases hc : p.1 ∈ s.configured <;> simp [hc]

/-- Who owns what. `pend` / `act`: an entry of the pending resp. active table is backed by the record of its
    subscription, which is configured. `conf`: a subscription between the two halves of `handleSubscriptionConfirm`
    (popped, not yet activated) holds neither a request nor a server id. `excl`, `fresh`: a record with a request
    outstanding has no server id; one never requested has neither. `window`: while the reconnect callback is between
    its two halves (`resubQueue ≠ []`) nothing is active or being confirmed — `Ws.okOp` keeps replies out meanwhile. -/
structure Own (s : St) : Prop where
  pend : ∀ p ∈ s.pending, (getSub s p.2).pendingReq = some p.1 ∧ p.2 ∈ s.configured
  act : ∀ p ∈ s.active, (getSub s p.2).current = some p.1 ∧ p.2 ∈ s.configured
  conf : ∀ l sid w, s.confirming = some (l, sid, w) →
    (getSub s l).pendingReq = none ∧ (getSub s l).current = none ∧ (getSub s l).requested = true
  excl : ∀ l, (getSub s l).pendingReq.isSome = true → (getSub s l).current = none
  fresh : ∀ l, (getSub s l).requested = false → (getSub s l).pendingReq = none ∧ (getSub s l).current = none
  window : s.resubQueue ≠ [] → s.active = [] ∧ s.confirming = none

/-- What `Own` says of one subscription `l` whose record is `r`. A step works on one subscription; for the others
    the tables only lose entries (`OwnRec.mono`). -/
structure OwnRec (s : St) (l : Nat) (r : SubRec) : Prop where
  pend : ∀ id, (id, l) ∈ s.pending → r.pendingReq = some id ∧ l ∈ s.configured
  act : ∀ sid, (sid, l) ∈ s.active → r.current = some sid ∧ l ∈ s.configured
  conf : ∀ sid w, s.confirming = some (l, sid, w) → r.pendingReq = none ∧ r.current = none ∧ r.requested = true
  excl : r.pendingReq.isSome = true → r.current = none
  fresh : r.requested = false → r.pendingReq = none ∧ r.current = none

theorem Own.sub {s : St} (h : Own s) (l : Nat) : OwnRec s l (getSub s l) :=
  ⟨fun _ hp => h.pend (_, l) hp, fun _ ha => h.act (_, l) ha, h.conf l, h.excl l, h.fresh l⟩

theorem Own.of_subs {s : St} (h : ∀ l, OwnRec s l (getSub s l))
    (hw : s.resubQueue ≠ [] → s.active = [] ∧ s.confirming = none) : Own s :=
  ⟨fun p hp => (h p.2).pend p.1 hp, fun p ha => (h p.2).act p.1 ha, fun l => (h l).conf, fun l => (h l).excl,
   fun l => (h l).fresh, hw⟩

theorem OwnRec.mono {s s' : St} {l : Nat} {r : SubRec} (h : OwnRec s l r)
    (hp : ∀ id, (id, l) ∈ s'.pending → (id, l) ∈ s.pending) (ha : ∀ sid, (sid, l) ∈ s'.active → (sid, l) ∈ s.active)
    (hc : ∀ sid w, s'.confirming = some (l, sid, w) → s.confirming = some (l, sid, w))
    (hcfg : l ∈ s.configured → l ∈ s'.configured) : OwnRec s' l r :=
  ⟨fun id hi => (h.pend id (hp id hi)).imp_right hcfg, fun sid hi => (h.act sid (ha sid hi)).imp_right hcfg,
   fun sid w e => h.conf sid w (hc sid w e), h.excl, h.fresh⟩

/-- a step that writes the record of `l` and gives the other subscriptions nothing new -/
theorem Own.update {s s' : St} (h : Own s) {l : Nat} {r : SubRec}
    (hg : ∀ l', getSub s' l' = if l = l' then r else getSub s l') (hl : OwnRec s' l r)
    (hcfg : s'.configured = s.configured)
    (hp : ∀ p ∈ s'.pending, p ∈ s.pending ∨ p.2 = l) (ha : ∀ p ∈ s'.active, p ∈ s.active ∨ p.2 = l)
    (hc : ∀ l' sid w, s'.confirming = some (l', sid, w) → s.confirming = some (l', sid, w) ∨ l' = l)
    (hw : s'.resubQueue ≠ [] → s'.active = [] ∧ s'.confirming = none) : Own s' := by
  refine .of_subs (fun l' => ?_) hw
  rw [hg]
  split
  · subst l'; exact hl
  · rename_i e
    exact (h.sub l').mono (fun _ hi => (hp _ hi).resolve_right (Ne.symm e)) (fun _ hi => (ha _ hi).resolve_right (Ne.symm e))
      (fun _ _ hi => (hc _ _ _ hi).resolve_right (Ne.symm e)) (fun hm => hcfg ▸ hm)

theorem Own.frame {s s' : St} (h : Own s) (h1 : s'.pending = s.pending) (h2 : s'.active = s.active)
    (h3 : s'.configured = s.configured) (h4 : s'.subs = s.subs) (h5 : s'.resubQueue = s.resubQueue)
    (h6 : s'.confirming = s.confirming) : Own s' := by
  have hg : getSub s' = getSub s := by funext l; unfold getSub; rw [h4]
  exact ⟨by rw [h1, hg, h3]; exact h.pend, by rw [h2, hg, h3]; exact h.act, by rw [h6, hg]; exact h.conf,
    by rw [hg]; exact h.excl, by rw [hg]; exact h.fresh, by rw [h5, h2, h6]; exact h.window⟩

theorem own_init (re : Bool) : Own (init re) := by
  refine ⟨?_, ?_, ?_, ?_, ?_, ?_⟩ <;> simp [init, getSub]

theorem own_allocSub (s : St) (l : Nat) (h : Own s) (hc : l ∈ s.configured)
    (hna : ∀ p ∈ s.active, p.2 ≠ l) (hnc : ∀ sid w, s.confirming ≠ some (l, sid, w)) : Own (allocSub s l) := by
  refine h.update (hg := getSub_set rfl) (hcfg := rfl)
    (hl := ⟨fun id hi => ⟨?_, hc⟩, fun _ hi => absurd rfl (hna _ hi), fun sid w e => absurd e (hnc sid w), fun _ => rfl, nofun⟩)
    (hp := fun p hp => ?_) (ha := fun _ hp => .inl hp) (hc := fun _ _ _ e => .inl e) (hw := h.window)
  · rcases List.mem_append.mp hi with hi | hi
    · -- an older request of the same subscription: it was dropped as stale
      unfold stalePending at hi
      rw [facts.2.2.1, if_pos rfl] at hi
      exact absurd (h.pend _ (mem_dropKey hi).1).1 (mem_dropKey hi).2
    · cases List.mem_singleton.mp hi; rfl
  · rcases List.mem_append.mp hp with hp | hp
    · exact .inl ((stalePending_sublist s l).subset hp)
    · exact .inr (by rw [List.mem_singleton.mp hp])

theorem own_addInflightSub (s : St) (l : Nat) (initial : Bool) (h : Own s)
    (hres : initial = false → s.active = [] ∧ s.confirming = none) : Own (addInflightSub s l initial) := by
  unfold addInflightSub
  split
  · exact h
  · rename_i hskip
    simp only [skipSub, facts.1, facts.2.1, Bool.and_true, Bool.true_and, Bool.not_eq_true, Bool.or_eq_false_iff,
      Bool.and_eq_false_iff, Bool.not_eq_false'] at hskip
    have hc : l ∈ s.configured := by simpa using hskip.2
    cases initial with
    | false =>
      obtain ⟨ha, hcn⟩ := hres rfl
      exact own_allocSub s l h hc (by rw [ha]; nofun) (by rw [hcn]; nofun)
    | true =>
      have hreq : (getSub s l).requested = false := hskip.1.resolve_left nofun
      refine own_allocSub s l h hc (fun p hp e => ?_) (fun sid w e => ?_)
      · have := (h.act p hp).1
        rw [e, (h.fresh l hreq).2] at this; cases this
      · have := (h.conf l sid w e).2.2
        rw [hreq] at this; cases this

theorem own_step (s : St) (op : Op) (h : Own s) (hok : okOp s op) : Own (step s op) := by
  cases op with
  | call c => exact h.frame rfl rfl rfl rfl rfl rfl
  | cancelCall id =>
    simp only [step]
    split
    · exact h.frame rfl rfl rfl rfl rfl rfl
    · exact h
  | subscribe l =>
    simp only [step]
    split
    · exact h
    · -- the record of a fresh `l` reads as the default already, so no record changes
      refine .of_subs (fun l' => ?_) h.window
      have hg : getSub { setSub s l {} with configured := s.configured ++ [l] } l' = getSub s l' := by
        rw [getSub_set (s := s) rfl]
        split
        · subst l'; exact (getSub_default hok).symm
        · rfl
      rw [hg]
      exact (h.sub l').mono (fun _ => id) (fun _ => id) (fun _ _ => id) (List.mem_append_left _)
  | sendSubscribe l => exact own_addInflightSub s l true h nofun
  | reply id r =>
    simp only [step]
    split
    · rename_i x l hf
      obtain ⟨hid, hmem⟩ := Assoc.of_find? hf
      dsimp only at hid
      subst hid
      obtain ⟨hpl, hcfg⟩ := h.pend _ hmem
      have hcur : (getSub s l).current = none := h.excl l (by rw [hpl]; rfl)
      have hreqd : (getSub s l).requested = true := by
        cases hr : (getSub s l).requested
        · exact absurd (h.fresh l hr).1 (by rw [hpl]; nofun)
        · rfl
      have hwin : s.resubQueue = [] ∧ s.confirming = none := by
        cases r with
        | error => exact hok
        | result o => cases o with
          | none => exact hok
          | some sid => exact ⟨hok.1, hok.2.1⟩
      have hpop : Own (popSub s x l) := by
        refine h.update (hg := getSub_set rfl) (hcfg := rfl)
          (hl := ⟨fun id' hi => ?_, fun _ hi => ?_, fun _ _ e => ?_, nofun, fun e => ?_⟩)
          (hp := fun p hp => .inl (List.mem_filter.mp hp).1) (ha := fun _ hp => .inl hp) (hc := fun _ _ _ e => .inl e)
          (hw := fun e => absurd hwin.1 e)
        · -- another request pending for `l` would be the one `l` records
          have := (h.pend _ (List.mem_filter.mp hi).1).1
          rw [hpl] at this
          exact absurd (Option.some.inj this).symm (by simpa using (List.mem_filter.mp hi).2)
        · exact absurd (h.act _ hi).1 (by rw [hcur]; nofun)
        · exact absurd (hwin.2 ▸ e) nofun
        · exact absurd (hreqd ▸ e) nofun
      unfold afterPop
      split
      · refine ⟨hpop.pend, hpop.act, fun l' sid' w hcf => ?_, hpop.excl, hpop.fresh, fun e => absurd hwin.1 e⟩
        obtain ⟨rfl, _, _⟩ : l = l' ∧ _ := by simpa using hcf
        show (getSub (popSub s x l) l).pendingReq = none ∧ (getSub (popSub s x l) l).current = none ∧
          (getSub (popSub s x l) l).requested = true
        rw [getSub_set (s := s) rfl, if_pos rfl]
        exact ⟨rfl, hcur, hreqd⟩
      · exact hpop.frame rfl rfl rfl rfl rfl rfl
    · split
      · exact h.frame rfl rfl rfl rfl rfl rfl
      · exact h.frame rfl rfl rfl rfl rfl rfl
  | activate =>
    simp only [step]
    split
    · exact h
    · rename_i l sid waiter hcf
      obtain ⟨hp0, hc0, hr0⟩ := h.conf l sid waiter hcf
      have hq : s.resubQueue = [] := Decidable.byContradiction fun e => by
        have := (h.window e).2; rw [hcf] at this; cases this
      split
      · exact ⟨h.pend, h.act, fun _ _ _ e => (by cases e), h.excl, h.fresh, fun e => absurd hq e⟩
      · rename_i hcfg
        have hin : l ∈ s.configured := by simpa [facts.2.2.2.1] using hcfg
        refine h.update (hg := getSub_set rfl) (hcfg := rfl)
          (hl := ⟨fun _ hi => ?_, fun sid' hi => ⟨?_, hin⟩, fun _ _ e => (by cases e),
            fun e => absurd (hp0 ▸ e) nofun, fun e => absurd (hr0 ▸ e) nofun⟩)
          (hp := fun _ hp => .inl hp) (ha := fun p hp => ?_) (hc := nofun) (hw := fun e => absurd hq e)
        · exact absurd (h.pend _ hi).1 (by rw [hp0]; nofun)
        · rcases List.mem_cons.mp hi with e | hi
          · cases e; rfl
          · exact absurd (h.act _ (List.mem_filter.mp hi).1).1 (by rw [hc0]; nofun)
        · rcases List.mem_cons.mp hp with rfl | hp
          · exact .inr rfl
          · exact .inl (List.mem_filter.mp hp).1
  | notify sid =>
    simp only [step]
    split <;> exact h.frame rfl rfl rfl rfl rfl rfl
  | reconnectClear order =>
    simp only [step]
    split
    · exact h
    · have hconf : (clearAll s order).confirming = none := hok.2.1
      refine .of_subs (fun l => ?_) fun _ => ⟨rfl, hconf⟩
      rw [getSub_clearAll]
      split
      · exact ⟨nofun, nofun, fun _ _ e => absurd (hconf ▸ e) nofun, fun _ => rfl, fun _ => ⟨rfl, rfl⟩⟩
      · exact ⟨nofun, nofun, fun _ _ e => absurd (hconf ▸ e) nofun, h.excl l, h.fresh l⟩
  | resubscribe =>
    simp only [step]
    split
    · exact h
    · rename_i l rest hq
      have hw := h.window (by rw [hq]; nofun)
      exact own_addInflightSub _ l false ⟨h.pend, h.act, h.conf, h.excl, h.fresh, fun _ => hw⟩ (fun _ => hw)
  | unsubscribe l =>
    simp only [step]
    refine .of_subs (fun l' => ?_) fun e => ?_
    · have hl' := h.sub l'
      by_cases e : l' = l
      · -- what `l` itself had in the tables is exactly what is removed
        subst e
        exact ⟨fun _ hi => absurd (hl'.pend _ (mem_dropKey hi).1).1 (mem_dropKey hi).2,
          fun _ hi => absurd (hl'.act _ (mem_dropKey hi).1).1 (mem_dropKey hi).2, hl'.conf, hl'.excl, hl'.fresh⟩
      · exact hl'.mono (fun _ hi => (mem_dropKey hi).1) (fun _ hi => (mem_dropKey hi).1) (fun _ _ => id)
          fun hm => List.mem_filter.mpr ⟨hm, by simpa using e⟩
    · refine ⟨List.eq_nil_iff_forall_not_mem.mpr fun p hp => ?_, (h.window e).2⟩
      have := (mem_dropKey hp).1
      rw [(h.window e).1] at this
      cases this

theorem own_reach {re : Bool} {s : St} (h : Reach re s) : Own s := by
  induction h with
  | init => exact own_init re
  | step op _ hok ih => exact own_step _ op ih hok

/-- **A notification goes to the subscription that currently owns its server id**: in every reachable state, a
    frame for server id `sid` is handed to `l` only if `l` is configured and `sid` is `l`'s current server id (which is
    also the id reported to the consumer). -/
theorem notify_routes_to_owner {re : Bool} {s : St} (h : Reach re s) (sid l : Nat)
    (hf : s.active.find? (·.1 == sid) = some (sid, l)) :
    (step s (.notify sid)).log = s.log ++ [.notified l sid] ∧ l ∈ s.configured ∧ (getSub s l).current = some sid := by
  have hmem := List.mem_of_find?_eq_some hf
  have := (own_reach h).act (sid, l) hmem
  simp [step, hf, this.1, this.2]

/-- **…and to none after it is unsubscribed**: a subscription that is not configured owns no server id, in any
    reachable state, so no notification is routed to it — whatever raced with the unsubscribe. -/
theorem unsubscribed_owns_nothing {re : Bool} {s : St} (h : Reach re s) (l : Nat) (hl : l ∉ s.configured) :
    (∀ p ∈ s.active, p.2 ≠ l) ∧ (∀ p ∈ s.pending, p.2 ≠ l) := by
  have ho := own_reach h
  exact ⟨fun p hp e => hl (e ▸ (ho.act p hp).2), fun p hp e => hl (e ▸ (ho.pend p hp).2)⟩

/-- **One server id per subscription**: two active entries of the same subscription carry the same server id. -/
theorem one_owner {re : Bool} {s : St} (h : Reach re s) (p q : Nat × Nat) (hp : p ∈ s.active) (hq : q ∈ s.active)
    (hl : p.2 = q.2) : p.1 = q.1 := by
  have ho := own_reach h
  have h1 := (ho.act p hp).1
  have h2 := (ho.act q hq).1
  rw [hl, h2] at h1
  injection h1 with h1
  exact h1.symm

/-- …and a subscription with a request outstanding owns no active id -/
theorem pending_excludes_active {re : Bool} {s : St} (h : Reach re s) (p q : Nat × Nat) (hp : p ∈ s.pending) (hq : q ∈ s.active) :
    p.2 ≠ q.2 := by
  have ho := own_reach h
  intro e
  have h1 := (ho.pend p hp).1
  have h2 := (ho.act q hq).1
  have := ho.excl p.2 (by simp [h1])
  rw [e, h2] at this
  cases this

/-- non-vacuity: three callers, replies out of order with a duplicate, a reconnect with one call outstanding -/
example :
    let s := run (init true) [.call 1, .call 2, .call 3, .reply 2 (.result none), .reply 2 (.result none),
      .reply 1 .error, .reconnectClear []]
    s.log = [.sentCall 1 1, .sentCall 2 2, .sentCall 3 3, .completed 2 2 true, .dropped, .completed 1 1 false,
             .completed 3 3 false] ∧ s.calls = [] := by
  decide

end Ws
end FFS.Props.C18
