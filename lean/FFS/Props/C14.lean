/-
  Property C14 — typed-data hashing is total on arbitrary documents and never misreads a number.
  Model: FFS.Model.Eip712 (pkg/eip712/typed_data_v4.go) over the ABI type parser and elementary encoders.
  `encodeTypedDataV4_total`: for every document — any type set (cyclic, with null members, with unparseable member
  types), any domain and message values — the model never panics once the fuel covers the size of the values
  (`docNeed`, which the driver supplies): out-of-fuel is the model's only other panic, so this is also the proof that
  the recursion over the document terminates. Numbers: `getInteger_same`, `int_member_exact`.
  JSON decoding into `TypedData` is encoding/json's (shared glue in the harness).
-/
import FFS.Lemmas.Eip712Closure
import FFS.Props.C02
import FFS.Props.C13
import FFS.Props.C19

namespace FFS.Props.C14
open FFS FFS.Model.Abi FFS.Model.Eip712 FFS.Gen.Eip712Facts FFS.Lemmas.Eip712Step

theorem facts : nilMemberGuard = true ∧ useNumber = true := by decide

theorem needMax_ge (M : Nat) : ∀ xs, 3 ≤ needMax M xs
  | [] => by simp [needMax]
  | _ :: xs => by rw [needMax]; have := needMax_ge M xs; omega

theorem need_ge (M : Nat) (v : Ext) : 3 ≤ need M v := by
  cases v with
  | obj _ _ => rw [need]; omega
  | arr xs => rw [need]; have := needMax_ge M xs; omega
  | _ => simp [need]

theorem need_le_needMax (M : Nat) : ∀ (xs : List Ext) (x : Ext), x ∈ xs → need M x ≤ needMax M xs
  | [], x, h => by cases h
  | y :: ys, x, h => by
    rw [needMax]
    rcases List.mem_cons.mp h with rfl | h
    · omega
    · have := need_le_needMax M ys x h; omega

theorem lookupKey_mem (keys : List String) (vals : List Ext) (k : String) (x : Ext)
    (h : lookupKey keys vals k = some x) : x ∈ vals := by
  obtain ⟨p, hp, rfl⟩ := Option.map_eq_some_iff.mp h
  exact (List.of_mem_zip (List.mem_reverse.mp (Assoc.of_find? hp).2)).2

theorem need_lookup (M : Nat) (keys : List String) (vals : List Ext) (k : String) :
    need M ((lookupKey keys vals k).getD .null) ≤ needMax M vals := by
  cases h : lookupKey keys vals k with
  | none => simp [need]; exact needMax_ge M vals
  | some x => simpa using need_le_needMax M vals x (lookupKey_mem keys vals k x h)

/-- an elementary component produced by the type parser has a width of at most 256 bits -/
theorem parseParam_elem_width (name type : String) (ix : Bool) (it : String) (comps : List Param)
    (i : ElemInfo) (sfx : String) (m n : Nat) (h : parseParam (.mk name type ix it comps) = .ok (.elem i sfx m n)) : m ≤ 256 := by
  obtain ⟨hi, hm⟩ := C13.parseParam_elem h
  have hw : ∀ i ∈ Gen.AbiTypeTable.table, i.defaultM ≤ 256 ∧ i.mMax ≤ 256 := by decide
  have := hw i hi
  omega

theorem getInteger_ne_panic (v : Ext) : getInteger v ≠ .panic := by
  cases v with
  | num lit fl rat => exact C19.bigIntegerFromString_ne_panic _ _ _
  | str s fl rat => exact C19.bigIntegerFromString_ne_panic _ _ _
  | float i z => cases i <;> simp [getInteger]
  | _ => simp [getInteger]

theorem getBool_ne_panic (v : Ext) : getBool v ≠ .panic := by cases v <;> simp [getBool]
theorem getString_ne_panic (v : Ext) : getString v ≠ .panic := by cases v <;> simp [getString]
theorem getBytes_ne_panic (v : Ext) : getBytes v ≠ .panic := by
  cases v <;> simp [getBytes] <;> split <;> simp

open Outcome in
theorem readElementary_ne_panic (info : ElemInfo) (v : Ext) : readElementary info v ≠ .panic := by
  have hI := getInteger_ne_panic v
  have hB := getBytes_ne_panic v
  unfold readElementary
  exact ite_ne_panic (map_ne_panic _ hI) <| ite_ne_panic (map_ne_panic _ hB) <|
    ite_ne_panic (map_ne_panic _ (getBool_ne_panic v)) <| ite_ne_panic (map_ne_panic _ hB) <|
    ite_ne_panic (map_ne_panic _ (getString_ne_panic v)) (by simp)

theorem encodeElem_ne_panic (info : ElemInfo) (m : Nat) (cv : CV) (hm : m ≤ 256) : encodeElem info m cv ≠ .panic := by
  unfold encodeElem
  split
  · split <;> simp
  · rename_i z _
    split
    · simp
    · split
      · simp
      · -- the only panic of the encoder, `FillBytes` into 32 bytes, is excluded by the width test just passed
        rw [fillBytes_word ((bitLen_le_iff _ _).mp (by omega)) hm]
        simp
  · split
    · simp
    · split <;> simp
  · simp
  · simp

theorem abiEncode_eq (info : ElemInfo) (m : Nat) (v : Ext) :
    abiEncode info m v = (readElementary info v).bind fun cv => (encodeElem info m cv).bind fun r => .ok r.1 := by
  unfold abiEncode
  cases readElementary info v with
  | ok cv => simp only [Outcome.ok_bind]; cases encodeElem info m cv <;> rfl
  | _ => rfl

theorem abiEncode_ne_panic (info : ElemInfo) (m : Nat) (v : Ext) (hm : m ≤ 256) : abiEncode info m v ≠ .panic := by
  rw [abiEncode_eq]
  exact Outcome.bind_ne_panic (readElementary_ne_panic info v) fun cv _ =>
    Outcome.bind_ne_panic (encodeElem_ne_panic info m cv hm) fun _ _ => by simp

theorem encodeType_ne_panic (typeName : String) (allTypes : TypeSet) : encodeType typeName allTypes ≠ .panic := by
  unfold encodeType
  split
  · simp only [facts.1, if_true]
    split <;> simp
  · simp

theorem length_le_maxMembers {ts : TypeSet} {n : String} {t : TypeDef} (h : (n, t) ∈ ts) : (t.getD []).length ≤ maxMembers ts := by
  induction ts with
  | nil => cases h
  | cons q r ih =>
    obtain ⟨qn, qt⟩ := q
    rw [maxMembers]
    rcases List.mem_cons.mp h with e | h
    · cases e; omega
    · have := ih h; omega

theorem encodeType_members {typeName : String} {allTypes : TypeSet} {r : List Member × String}
    (h : encodeType typeName allTypes = .ok r) : r.1.length ≤ maxMembers allTypes := by
  obtain ⟨raw, hl, hr⟩ := encodeType_ok h
  rw [hr]
  exact Nat.le_trans (List.length_filterMap_le _ _) (length_le_maxMembers (Lemmas.Eip712Closure.lookup_mem hl))

theorem encodeAtom_ne_panic (tn : String) (v : Ext) (h : ¬ (tn.toList.getLast? == some ']') = true) :
    encodeAtom tn v ≠ .panic := by
  rw [encodeAtom, encodeElement, if_neg h, if_neg (show ¬ (tsLookup [] tn).isSome = true from Bool.false_ne_true)]
  split
  · rename_i info suffix m n hp
    have hm : m ≤ 256 := parseParam_elem_width _ _ _ _ _ _ _ _ _ hp
    split
    · exact abiEncode_ne_panic info m v hm
    · split
      · split
        · exact abiEncode_ne_panic info m v hm
        · cases hg : getBytes v with
          | panic => exact absurd hg (getBytes_ne_panic v)
          | _ => simp
      · split
        · cases hg : getString v with
          | panic => exact absurd hg (getString_ne_panic v)
          | _ => simp
        · simp
  · simp
  · simp
  · rename_i hh
    exact absurd hh (C13.parse_total _)

/-- the six mutually recursive functions do not panic at fuel `f` on values the fuel covers -/
structure Safe (types : TypeSet) (f : Nat) : Prop where
  elem : ∀ t v, need (maxMembers types) v ≤ f → encodeElement f t v types ≠ .panic
  strct : ∀ t v, need (maxMembers types) v ≤ f + 1 → hashStruct f t v types ≠ .panic
  data : ∀ t v, need (maxMembers types) v ≤ f + 2 → Model.Eip712.encodeData f t v types ≠ .panic
  members : ∀ ms keys vals, ms.length + needMax (maxMembers types) vals ≤ f → encodeMembers f ms keys vals types ≠ .panic
  array : ∀ t v, need (maxMembers types) v ≤ f + 1 → hashArray f t types v ≠ .panic
  elems : ∀ t xs, xs.length + needMax (maxMembers types) xs ≤ f → hashElems f t xs types ≠ .panic

open Outcome in
theorem safe_all (types : TypeSet) : ∀ f, Safe types f
  | 0 => by
    have hn := need_ge (maxMembers types)
    have hm := needMax_ge (maxMembers types)
    exact ⟨fun _ v h => by have := hn v; omega, fun _ v h => by have := hn v; omega, fun _ v h => by have := hn v; omega,
      fun _ _ vs h => by have := hm vs; omega, fun _ v h => by have := hn v; omega, fun _ xs h => by have := hm xs; omega⟩
  | f + 1 => by
    have ih := safe_all types f
    refine ⟨fun t v h => ?_, fun t v h => ?_, fun t v h => ?_, fun ms ks vs h => ?_, fun t v h => ?_, fun t xs h => ?_⟩
    · rw [encodeElement_succ]
      split
      · exact ih.array t v (by omega)
      · split
        · exact ih.strct t v (by omega)
        · exact encodeAtom_ne_panic t v ‹_›
    · rw [hashStruct_succ]
      exact bind_ne_panic (ih.data t v (by omega)) fun _ _ => by simp
    · rw [encodeData_succ]
      refine bind_ne_panic (encodeType_ne_panic t types) fun r hr => ?_
      have := encodeType_members hr
      cases v with
      | obj ks vs =>
        rw [need] at h
        exact bind_ne_panic (ih.members r.1 ks vs (by omega)) fun _ _ => by simp
      | _ => simp
    · cases ms with
      | nil => simp [encodeMembers_nil]
      | cons m ms =>
        rw [encodeMembers_cons]
        have := need_lookup (maxMembers types) ks vs m.name
        rw [List.length_cons] at h
        exact bind_ne_panic (ih.elem _ _ (by omega)) fun _ _ =>
          bind_ne_panic (ih.members ms ks vs (by omega)) fun _ _ => by simp
    · rw [hashArray_succ]
      cases v with
      | arr xs =>
        rw [need] at h
        exact bind_ne_panic (ofOption_ne_panic _) fun _ _ =>
          bind_ne_panic (ih.elems _ xs (by omega)) fun _ _ => by simp
      | _ => simp
    · cases xs with
      | nil => simp [hashElems_nil]
      | cons x xs =>
        rw [hashElems_cons]
        rw [List.length_cons, needMax] at h
        exact bind_ne_panic (ih.elem t x (by omega)) fun _ _ =>
          bind_ne_panic (ih.elems t xs (by omega)) fun _ _ => by simp

/-- **Totality.** Hashing any document never panics (and the recursion over it terminates within `docNeed`). -/
theorem encodeTypedDataV4_total (p : TypedData) (fuel : Nat) (hf : docNeed p ≤ fuel) :
    encodeTypedDataV4 fuel p ≠ .panic := by
  have hs := safe_all (effectiveTypes p) fuel
  rw [docNeed] at hf
  rw [encodeTypedDataV4_eq]
  split
  · simp
  · refine Outcome.bind_ne_panic (hs.strct _ _ (by omega)) fun dh _ => ?_
    split
    · exact Outcome.bind_ne_panic (hs.strct _ _ (by omega)) fun _ _ => by simp
    · simp

/-- **A JSON number and a string with the same text are read as the same integer** (the literal reaches the reader:
    `useNumber`), so `1000`, `"1000"` and `"0x3e8"` all go through `bigIntegerFromString`, whose accepted results are
    exactly what the text denotes (C19.bigint_sound). -/
theorem getInteger_same (lit : String) (fl rat : Model.EthTypes.ExtNum) :
    getInteger (.num lit fl rat) = getInteger (.str lit fl rat) := rfl

/-- **Never a different value.** If an integer member (`uint<M>` or `int<M>`: the rows of the type table that
    `getIntegerFromInterface` reads; `address` and `bool` have readers of their own) is encoded at all, the
    32-byte word that goes into the hash is the unsigned / two's-complement encoding of exactly the integer the reader
    produced from the input, and that integer lies in the range of the declared width — an out-of-range or inexact
    input yields an error instead (`getInteger` itself only accepts what the text denotes: C19.bigint_sound). -/
theorem int_member_exact (info : ElemInfo) (m : Nat) (v : Ext) (w : Bytes)
    (hr : info.reader = "getIntegerFromInterface") (hm : m ≤ 256)
    (hc : codecOf info.enc = .uint ∨ (codecOf info.enc = .sint ∧ 8 ≤ m ∧ m % 8 = 0))
    (h : abiEncode info m v = .ok w) :
    ∃ z : Int, getInteger v = .ok z ∧
      ((codecOf info.enc = .uint ∧ 0 ≤ z ∧ z < 2 ^ m ∧ w = toBE 32 z.toNat) ∨
       (codecOf info.enc = .sint ∧ -(2 : Int) ^ (m - 1) ≤ z ∧ z < 2 ^ (m - 1) ∧ w = toBE 32 (z % 2 ^ 256).toNat)) := by
  rw [abiEncode_eq] at h
  obtain ⟨cv, hre, h⟩ := Outcome.bind_eq_ok.mp h
  obtain ⟨⟨d, dyn⟩, he, h⟩ := Outcome.bind_eq_ok.mp h
  injection h with h
  subst h
  rw [readElementary, if_pos hr] at hre
  obtain ⟨z, hg, rfl⟩ := Outcome.map_eq_ok.mp hre
  exact ⟨z, hg, (C02.encodeElem_int_exact info m z d dyn hm hc he).2⟩

open FFS.Model.Eip712 FFS.Model.EthTypes
def isOk {α : Type} : Outcome α → Bool | .ok _ => true | _ => false
/-- non-vacuity of `int_member_exact`: for `uint256` (table entry "uint") the three spellings of 255 are accepted and give
    the same word; 2^256 and a fraction are rejected -/
example : (match Gen.AbiTypeTable.table.find? (·.name == "uint") with
    | some info =>
      info.reader == "getIntegerFromInterface" &&
      (abiEncode info 256 (.num "255" (.int 255) (.int 255)) == .ok (toBE 32 255)) &&
      (abiEncode info 256 (.str "255" (.int 255) (.int 255)) == .ok (toBE 32 255)) &&
      (abiEncode info 256 (.str "0xff" .fail .fail) == .ok (toBE 32 255)) &&
      !isOk (abiEncode info 256 (.str "0x10000000000000000000000000000000000000000000000000000000000000000" .fail .fail)) &&
      !isOk (abiEncode info 256 (.num "1.5" .notInt .notInt))
    | none => false) = true := by decide +kernel

end FFS.Props.C14
