/-
  Property C15 — reading a keystore file is total: malformed files give errors, never panics.
  Model: FFS.Model.Keystore.readWalletFile (pkg/keystorev3: ReadWalletFile, the scrypt / PBKDF2 decrypt paths with
  the argument checks of golang.org/x/crypto, decryptCommon). Spec: FFS.Spec.KeystoreV3.v3Read (an independent V3
  reader written from the Web3 Secret Storage Definition). JSON decoding into the package's structs is shared glue
  (hook VerifParse); the decoded fields are the input here, so "any byte string" = any `KsFile` (including the two
  decode-error flags).
  `read_total`: no panic. `read_ok_shape` states what a successful read has passed (flags, version, dklen, those of the
  KDF's argument checks that the specification makes too, `decryptCommon` on the key derived from the password);
  `read_needs_mac` and `read_sound_partial` are read off it.
  PARTIAL (`read_sound_partial`): agreement with the independent reader is proved for files that declare cipher
  aes-128-ctr; without that hypothesis the statement is false of the code (known finding C15-cipher-unchecked: the
  cipher member is never looked at) — `cipher_unchecked_witness` exhibits the disagreement.
  Each reader is first put as a chain of guards with the regenerated constants filled in (`…_eq`, `…_ok_iff`); the
  theorems read the chains off with the guard lemmas of Lemmas/Outcome, and C07 uses the same chains right to left.
-/
import FFS.Model.Keystore
import FFS.Spec.KeystoreV3
import FFS.Lemmas.Outcome
namespace FFS.Props.C15
open FFS FFS.Model.Keystore FFS.Gen.KeystoreConsts FFS.Outcome

/-- the regenerated guards -/
theorem facts : paramsChecked = true ∧ ivChecked = true ∧ macBeforeDecrypt = true ∧ readShape = true ∧
    version3 = 3 ∧ kdfTypeScrypt = "scrypt" ∧ kdfTypePbkdf2 = "pbkdf2" ∧ prfHmacSHA256 = "hmac-sha256" ∧
    cipherAES128ctr = "aes-128-ctr" := by decide

theorem decryptCommon_ok_iff (f : KsFile) (dk k : Bytes) : decryptCommon f dk = .ok k ↔
    dk.length = 32 ∧ f.iv.length = 16 ∧ Prim.keccak256 ((dk.drop 16).take 16 ++ f.ciphertext) = f.mac ∧
    k = Prim.aes128Ctr (dk.take 16) f.iv f.ciphertext := by
  show _ ↔ _ ∧ _ ∧ generateMac _ _ = _ ∧ _
  simp only [decryptCommon, ite_err_eq_ok, ite_panic_eq_ok, Outcome.ok.injEq, facts.2.1, Bool.true_and,
    decide_eq_true_eq, Decidable.not_not]
  exact ⟨fun h => ⟨h.1, h.2.1, h.2.2.1, h.2.2.2.2.symm⟩, fun h => ⟨h.1, h.2.1, h.2.2.1, h.2.1, h.2.2.2.symm⟩⟩

theorem decryptCommon_ne_panic (f : KsFile) (dk : Bytes) : decryptCommon f dk ≠ .panic := by
  simp only [decryptCommon, ite_err_ne_panic, ite_panic_ne_panic, facts.2.1, Bool.true_and, decide_eq_true_eq]
  exact fun _ h _ => ⟨h, by simp⟩

theorem scryptKey_ok_iff (pw salt : Bytes) (n r p kl : Int) (dk : Bytes) : scryptKey pw salt n r p kl = .ok dk ↔
    ¬ (n ≤ 1 ∨ (!isPow2 n.toNat) = true) ∧ ¬ (r < 0 ∨ p < 0) ∧ ¬ (p = 0 ∨ r = 0) ∧
    ¬ (r * p ≥ 2 ^ 30 ∨ r > maxInt / 128 / p ∨ r > maxInt / 256 ∨ n > maxInt / 128 / r) ∧ ¬ kl < 0 ∧
    Prim.scrypt pw salt n.toNat r.toNat p.toNat kl.toNat = dk := by
  simp only [scryptKey, ite_err_eq_ok, ite_panic_eq_ok, Outcome.ok.injEq]

theorem scryptKey_ne_panic (pw salt : Bytes) (n r p keyLen : Int) (hr : 0 < r) (hp : 0 < p) (hk : 0 ≤ keyLen) :
    scryptKey pw salt n r p keyLen ≠ .panic := by
  simp only [scryptKey, ite_err_ne_panic, ite_panic_ne_panic]
  exact fun _ _ => ⟨by omega, fun _ => ⟨by omega, by simp⟩⟩

theorem decryptScrypt_eq (f : KsFile) (pw : Bytes) : decryptScrypt f pw =
    if f.dklen ≠ 32 then .err else if f.r ≤ 0 ∨ f.p ≤ 0 then .err
    else (scryptKey pw f.salt f.n f.r f.p 32).bind (decryptCommon f) := by
  unfold decryptScrypt
  simp only [facts.1, Bool.true_and, decide_eq_true_eq]
  split
  · rfl
  · rename_i h
    rw [Decidable.not_not.mp h]
    split
    · rfl
    · cases scryptKey pw f.salt f.n f.r f.p 32 <;> rfl

theorem decryptPbkdf2_eq (f : KsFile) (pw : Bytes) : decryptPbkdf2 f pw =
    if f.prf ≠ "hmac-sha256" then .err else if f.dklen ≠ 32 then .err else if f.c ≤ 0 then .err
    else decryptCommon f (Prim.pbkdf2Sha256 pw f.salt f.c.toNat 32) := by
  obtain ⟨hpc, -, -, -, -, -, -, hprf, -⟩ := facts
  unfold decryptPbkdf2
  simp only [hpc, hprf, Bool.true_and, decide_eq_true_eq]
  split
  · rfl
  · split
    · rfl
    · rename_i h
      rw [Decidable.not_not.mp h]
      split
      · rfl
      · rename_i hc
        rw [pbkdf2Key, if_neg (by decide), show max f.c 1 = f.c by omega]
        rfl

theorem readWalletFile_eq (f : KsFile) (pw : Bytes) : readWalletFile f pw =
    if f.commonErr = true ∨ f.idNil = true ∨ f.version ≠ 3 then .err
    else if f.kdf = "scrypt" then (if f.kdfErr then .err else decryptScrypt f pw)
    else if f.kdf = "pbkdf2" then (if f.kdfErr then .err else decryptPbkdf2 f pw)
    else .err := by
  obtain ⟨-, -, -, -, hv3, hscrypt, hpbkdf2, -, -⟩ := facts
  unfold readWalletFile
  simp only [hv3, hscrypt, hpbkdf2]
  by_cases h1 : f.commonErr = true
  · simp [h1]
  · by_cases h2 : f.idNil = true
    · simp [h1, h2]
    · by_cases h3 : f.version = 3 <;> simp [h1, h2, h3]

theorem read_total (f : KsFile) (pw : Bytes) : readWalletFile f pw ≠ .panic := by
  have hc := decryptCommon_ne_panic f
  have hs : decryptScrypt f pw ≠ .panic := by
    simp only [decryptScrypt_eq, ite_err_ne_panic]
    exact fun _ h => bind_ne_panic (scryptKey_ne_panic _ _ _ _ _ _ (by omega) (by omega) (by decide)) fun dk _ => hc dk
  have hp : decryptPbkdf2 f pw ≠ .panic := by
    simp only [decryptPbkdf2_eq, ite_err_ne_panic]
    exact fun _ _ _ => hc _
  simp only [readWalletFile_eq, ite_err_ne_panic]
  exact fun _ => ite_ne_panic (ite_ne_panic (by simp) hs) (ite_ne_panic (ite_ne_panic (by simp) hp) (by simp))

theorem read_ok_shape (f : KsFile) (pw k : Bytes) (h : readWalletFile f pw = .ok k) :
    f.commonErr = false ∧ f.idNil = false ∧ f.kdfErr = false ∧ f.version = 3 ∧ f.dklen = 32 ∧
    ((f.kdf = "scrypt" ∧ 1 < f.n ∧ isPow2 f.n.toNat = true ∧ 1 ≤ f.r ∧ 1 ≤ f.p ∧ f.r * f.p < 2 ^ 30 ∧
        decryptCommon f (Prim.scrypt pw f.salt f.n.toNat f.r.toNat f.p.toNat 32) = .ok k) ∨
     (f.kdf = "pbkdf2" ∧ f.prf = "hmac-sha256" ∧ 1 ≤ f.c ∧
        decryptCommon f (Prim.pbkdf2Sha256 pw f.salt f.c.toNat 32) = .ok k)) := by
  simp only [readWalletFile_eq, ite_err_eq_ok, not_or, Bool.not_eq_true, Decidable.not_not] at h
  obtain ⟨⟨h1, h2, h3⟩, h⟩ := h
  split at h
  · rename_i hk
    simp only [decryptScrypt_eq, ite_err_eq_ok, bind_eq_ok, scryptKey_ok_iff, not_or, Bool.not_eq_true,
      Decidable.not_not] at h
    obtain ⟨he, hd, _, dk, ⟨⟨g1, g2⟩, _, _, ⟨g3, _⟩, _, rfl⟩, hdc⟩ := h
    exact ⟨h1, h2, he, h3, hd, Or.inl ⟨hk, by omega, by simpa using g2, by omega, by omega, by omega, hdc⟩⟩
  · split at h
    · rename_i hk
      simp only [decryptPbkdf2_eq, ite_err_eq_ok, Bool.not_eq_true, Decidable.not_not] at h
      obtain ⟨he, hprf, hd, hc, hdc⟩ := h
      exact ⟨h1, h2, he, h3, hd, Or.inr ⟨hk, hprf, by omega, hdc⟩⟩
    · cases h

/-- **A key is returned only under a valid MAC.** -/
theorem read_needs_mac (f : KsFile) (pw k : Bytes) (h : readWalletFile f pw = .ok k) :
    ∃ dk : Bytes, dk.length = 32 ∧ f.iv.length = 16 ∧ Prim.keccak256 ((dk.drop 16).take 16 ++ f.ciphertext) = f.mac ∧
      k = Prim.aes128Ctr (dk.take 16) f.iv f.ciphertext := by
  obtain ⟨_, _, _, _, _, hk⟩ := read_ok_shape f pw k h
  rcases hk with ⟨_, _, _, _, _, _, hd⟩ | ⟨_, _, _, hd⟩ <;> exact ⟨_, (decryptCommon_ok_iff f _ k).mp hd⟩

/-- **Soundness against the independent reader (partial: for files declaring aes-128-ctr).** -/
theorem read_sound_partial (f : KsFile) (pw k : Bytes) (hc : f.cipher = "aes-128-ctr")
    (h : readWalletFile f pw = .ok k) : Spec.KeystoreV3.v3Read f pw = some k := by
  obtain ⟨h1, h2, h3, hv, hd, hk⟩ := read_ok_shape f pw k h
  unfold Spec.KeystoreV3.v3Read
  rcases hk with ⟨hkdf, hn, hpow, hr, hp, hrp, hdc⟩ | ⟨hkdf, hprf, hcc, hdc⟩
  · obtain ⟨_, hiv, hmac, hkey⟩ := (decryptCommon_ok_iff f _ k).mp hdc
    have hrp' : f.r * f.p < 1073741824 := by simpa using hrp  -- `simp` below evaluates the specification's `2 ^ 30`
    simp [h1, h2, h3, hv, hc, hiv, hd, hkdf, hn, hpow, hr, hp, hrp', hmac, hkey]
  · obtain ⟨_, hiv, hmac, hkey⟩ := (decryptCommon_ok_iff f _ k).mp hdc
    have hne : ¬ ("pbkdf2" = "scrypt") := by decide
    simp [h1, h2, h3, hv, hc, hiv, hd, hkdf, hne, hprf, hcc, hmac, hkey]

/-- the full statement fails on the code: a file that declares another cipher is still decrypted as AES-128-CTR by
    the model (mirroring the code), while the independent reader refuses it (known finding C15-cipher-unchecked) -/
theorem cipher_unchecked_witness (f : KsFile) (pw k : Bytes) (h : readWalletFile f pw = .ok k) :
    readWalletFile { f with cipher := "aes-256-cbc" } pw = .ok k ∧
    Spec.KeystoreV3.v3Read { f with cipher := "aes-256-cbc" } pw = none := by
  constructor
  · exact h  -- no function of the model looks at the `cipher` field
  · obtain ⟨h1, h2, h3, hv, _⟩ := read_ok_shape f pw k h
    simp [Spec.KeystoreV3.v3Read, h1, h2, h3, hv]

end FFS.Props.C15
