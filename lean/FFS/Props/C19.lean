/-
  Property C19 — hex / number JSON types parse exactly or fail, and print canonically.
  Model: FFS.Model.EthTypes (mirrors /repo/pkg/ethtypes). `big.Int.SetString(s,0)` is modelled in full;
  `big.ParseFloat` / `big.Rat.SetString` are external parameters (see the model's header).
-/
import FFS.Model.EthTypes
import FFS.Lemmas.Eip55
import FFS.Lemmas.Decimal
import FFS.Lemmas.Outcome
namespace FFS.Props.C19
open FFS FFS.Model.EthTypes

/-- the regenerated structural facts of pkg/ethtypes; the model branches on each but `bigIntShape`, the order
    "`SetString` first, then `ParseFloat`", which it has built in -/
theorem facts : Gen.EthConsts.ratConfirmed = true ∧ Gen.EthConsts.bigIntShape = true ∧
    Gen.EthConsts.hexIntRejectsNegative = true ∧ Gen.EthConsts.hexU64ChecksRange = true ∧
    Gen.EthConsts.addrChecksLen = true := by decide

/-- `BigIntegerFromString` with the regenerated guard `ratConfirmed` put in -/
theorem bigIntegerFromString_eq (s : List Char) (fl rat : ExtNum) :
    bigIntegerFromString s fl rat = Outcome.ofOption ((setString0 s).or
      (match fl, rat with
       | .int i, .fail => some i
       | .int i, .int q => if q = i then some i else none
       | _, _ => none)) := by
  unfold bigIntegerFromString
  cases setString0 s with
  | some z => rfl
  | none =>
    cases fl <;> cases rat <;> simp only [facts.1, if_true, Option.or_none, Option.none_or, Outcome.ofOption]
    split <;> rfl

/-- **Soundness of the integer parser.** Whatever is accepted is either what `SetString(s, 0)` read
    exactly, or an integer on which the 256-bit float and exact rational arithmetic agree (or the rational
    parser declined the text, which only happens outside the property's domain: exponents beyond 10^6). -/
theorem bigint_sound {s : List Char} {fl rat : ExtNum} {z : Int}
    (h : bigIntegerFromString s fl rat = .ok z) :
    setString0 s = some z ∨
      (setString0 s = none ∧ fl = .int z ∧ (rat = .int z ∨ rat = .fail)) := by
  rw [bigIntegerFromString_eq] at h
  cases hs : setString0 s with
  | some w => rw [hs] at h; cases h; exact Or.inl rfl
  | none =>
    rw [hs, Option.none_or, Outcome.ofOption_eq_ok] at h
    cases fl <;> cases rat <;> simp only [Option.ite_none_right_eq_some, Option.some.injEq, reduceCtorEq] at h
    · subst h; exact Or.inr ⟨rfl, rfl, Or.inr rfl⟩
    · obtain ⟨rfl, rfl⟩ := h; exact Or.inr ⟨rfl, rfl, Or.inl rfl⟩

/-- A text that exact rational arithmetic reads as a non-integer is never accepted (no rounding). -/
theorem bigint_rejects_fraction (s : List Char) (fl : ExtNum) (hs : setString0 s = none) :
    bigIntegerFromString s fl .notInt = .err := by
  rw [bigIntegerFromString_eq, hs]
  cases fl <;> rfl

theorem bigIntegerFromString_ne_panic (s : List Char) (fl rat : ExtNum) : bigIntegerFromString s fl rat ≠ .panic := by
  rw [bigIntegerFromString_eq]
  exact Outcome.ofOption_ne_panic _

theorem unmarshalBigInt_ne_panic (j : JNum) (fl rat : ExtNum) : unmarshalBigInt j fl rat ≠ .panic := by
  cases j <;> simp [unmarshalBigInt, bigIntegerFromString_ne_panic]

/-- the two JSON integer types with the regenerated guards put in: a range check on what `unmarshalBigInt` read -/
theorem hexIntegerUnmarshal_eq (j : JNum) (fl rat : ExtNum) :
    hexIntegerUnmarshal j fl rat = (unmarshalBigInt j fl rat).bind fun z => if z < 0 then .err else .ok z := by
  unfold hexIntegerUnmarshal
  cases unmarshalBigInt j fl rat <;> simp [facts.2.2.1]

theorem hexUint64Unmarshal_eq (j : JNum) (fl rat : ExtNum) :
    hexUint64Unmarshal j fl rat =
      (unmarshalBigInt j fl rat).bind fun z => if z < 0 ∨ 2 ^ 64 ≤ z then .err else .ok (z % 2 ^ 64).toNat := by
  unfold hexUint64Unmarshal
  cases unmarshalBigInt j fl rat <;> simp [facts.2.2.2.1]

theorem hexint_nonneg {j : JNum} {fl rat : ExtNum} {z : Int}
    (h : hexIntegerUnmarshal j fl rat = .ok z) : 0 ≤ z := by
  rw [hexIntegerUnmarshal_eq, Outcome.bind_eq_ok] at h
  obtain ⟨w, _, h⟩ := h
  obtain ⟨hw, h⟩ := Outcome.ite_err_eq_ok.mp h
  cases h
  omega

/-- The 64-bit type only accepts values in [0, 2^64), and returns exactly that value (no wrap). -/
theorem hexuint64_range {j : JNum} {fl rat : ExtNum} {n : Nat}
    (h : hexUint64Unmarshal j fl rat = .ok n) :
    n < 2 ^ 64 ∧ unmarshalBigInt j fl rat = .ok (n : Int) := by
  rw [hexUint64Unmarshal_eq, Outcome.bind_eq_ok] at h
  obtain ⟨w, hw, h⟩ := h
  obtain ⟨hr, h⟩ := Outcome.ite_err_eq_ok.mp h
  cases h
  exact ⟨by omega, by rw [hw]; congr 1; omega⟩

theorem unmarshal_total (j : JNum) (fl rat : ExtNum) :
    hexIntegerUnmarshal j fl rat ≠ .panic ∧ hexUint64Unmarshal j fl rat ≠ .panic := by
  rw [hexIntegerUnmarshal_eq, hexUint64Unmarshal_eq]
  cases hr : unmarshalBigInt j fl rat with
  | panic => exact absurd hr (unmarshalBigInt_ne_panic j fl rat)
  | err => exact ⟨nofun, nofun⟩
  | ok z =>
    rw [Outcome.ok_bind, Outcome.ok_bind]
    constructor <;> split <;> nofun

theorem hexDigitVal_hexChar (n : Nat) (h : n < 16) : hexDigitVal (hexChar n) = some n :=
  (FFS.Lemmas.Eip55.hexChar_facts ⟨n, h⟩).1

theorem hexDecode_hexEncode (bs : Bytes) : hexDecode (hexEncode bs) = some bs := by
  induction bs with
  | nil => rfl
  | cons b t ih =>
    have hb := b.toNat_lt
    simp only [hexEncode, hexDecode, hexDigitVal_hexChar (b.toNat / 16) (by omega),
      hexDigitVal_hexChar (b.toNat % 16) (by omega), ih]
    have : b.toNat / 16 * 16 + b.toNat % 16 = b.toNat := by omega
    rw [this, UInt8.ofNat_toNat]

/-- `x` is not a hex digit, so a printed digit pair is never taken for the prefix `0x` -/
theorem trim0x_hexEncode (bs : Bytes) : trim0x (hexEncode bs) = hexEncode bs := by
  cases bs with
  | nil => rfl
  | cons b t =>
    have hb := b.toNat_lt
    simp only [hexEncode]
    have hx : ∀ m : Fin 16, hexChar m.val ≠ 'x' := by decide
    have := hx ⟨b.toNat % 16, by omega⟩
    unfold trim0x
    split
    · rename_i rest heq
      injection heq with h1 h2
      injection h2 with h2 h3
      exact absurd h2 this
    · rfl

theorem hexbytes_roundtrip (b : Bytes) :
    hexBytesParse (hexEncode b) = .ok b ∧ hexBytesParse ('0' :: 'x' :: hexEncode b) = .ok b := by
  constructor
  · simp [hexBytesParse, trim0x_hexEncode, hexDecode_hexEncode]
  · simp [hexBytesParse, trim0x, hexDecode_hexEncode]

/-- Parsing accepts exactly the texts whose hex part decodes: no partial or defaulted result. -/
theorem hexbytes_parse_iff (s : List Char) (b : Bytes) :
    hexBytesParse s = .ok b ↔ hexDecode (trim0x s) = some b := by
  unfold hexBytesParse
  cases hexDecode (trim0x s) <;> simp

theorem address_parse_iff (s : List Char) (a : Bytes) :
    addressSetString s = .ok a ↔ (hexDecode (trim0x s) = some a ∧ a.length = 20) := by
  unfold addressSetString
  cases hexDecode (trim0x s) with
  | none => simp
  | some w =>
    simp only [facts.2.2.2.2, Bool.true_and, bne_iff_ne, ne_eq, Outcome.ite_err_eq_ok, Decidable.not_not,
      Outcome.ok.injEq, Option.some.injEq]
    -- with 20 bytes the code's `take 20` and zero padding change nothing
    have hw : w.length = 20 → w.take 20 ++ zeros (20 - w.length) = w := fun hl => by
      rw [hl, List.take_of_length_le (by omega)]; simp [zeros]
    constructor
    · rintro ⟨hl, rfl⟩
      exact ⟨(hw hl).symm, by rw [hw hl]; exact hl⟩
    · rintro ⟨rfl, hl⟩
      exact ⟨hl, hw hl⟩

/-- The `0x` and the plain printed form of an address parse back to it (the checksum form: `checksum_roundtrip`). -/
theorem address_roundtrip (a : Bytes) (h : a.length = 20) :
    addressSetString (address0xString a) = .ok a ∧ addressSetString (addressPlainString a) = .ok a := by
  constructor
  · rw [address_parse_iff]; exact ⟨by simp [address0xString, trim0x, hexDecode_hexEncode], h⟩
  · rw [address_parse_iff]; exact ⟨by simp [addressPlainString, trim0x_hexEncode, hexDecode_hexEncode], h⟩

/-- **The checksum form is EIP-55**: for every 20-byte address, `AddressWithChecksum.String()` — the lower-case hex zipped
    with the hex of its Keccak-256 hash, as the code computes it — is the EIP-55 spelling of the specification
    (`Spec.Numeric.eip55`: a letter is upper-cased exactly when the hash nibble at its index is ≥ 8). -/
theorem checksum_is_eip55 (a : Bytes) (h : a.length = 20) : addressChecksumString a = Spec.Numeric.eip55 a :=
  FFS.Lemmas.Eip55.checksum_eq_eip55 a (by omega)

/-- **The checksum form parses back to the address**: the third printed form round-trips too (the parser ignores letter
    case: `Lemmas/Eip55.hexDecode_congr`). -/
theorem checksum_roundtrip (a : Bytes) (h : a.length = 20) : addressSetString (addressChecksumString a) = .ok a := by
  rw [checksum_is_eip55 a h, address_parse_iff]
  obtain ⟨cs, he, hd⟩ := FFS.Lemmas.Eip55.eip55_decodes a
  rw [he]
  exact ⟨by simp only [trim0x]; rw [hd, hexDecode_hexEncode], h⟩

theorem digitVal_digitChar (d : Nat) (h : d < 16) : digitVal (Nat.digitChar d) = some d ∧ Nat.digitChar d ≠ '_' := by
  have : ∀ m : Fin 16, digitVal (Nat.digitChar m.val) = some m.val ∧ Nat.digitChar m.val ≠ '_' := by decide
  exact this ⟨d, h⟩

/-- scanning the base-`b` digits of `n` (followed by `rest`) shifts the accumulator by the digits and adds `n` -/
theorem scanDigits_toDigits_base {b : Nat} (hb : 1 < b) (hb16 : b ≤ 16) (n : Nat) : ∀ (rest : List Char) (st : ScanSt),
    ∃ k, 0 < k ∧ scanDigits b (Nat.toDigits b n ++ rest) st =
      scanDigits b rest { st with acc := st.acc * b ^ k + n, count := st.count + k, prevDigit := true, prevSep := false } := by
  induction n using Nat.base_induction b hb with
  | single m hm =>
    intro rest st
    obtain ⟨hd, hne⟩ := digitVal_digitChar m (by omega)
    refine ⟨1, by omega, ?_⟩
    simp only [Nat.toDigits_of_lt_base hm, List.singleton_append, scanDigits, hne, if_false, hd, hm, if_true, Nat.pow_one]
  | digit m d hd hm ih =>
    intro rest st
    obtain ⟨k, hk, hq⟩ := ih ([Nat.digitChar d] ++ rest) st
    obtain ⟨hv, hne⟩ := digitVal_digitChar d (by omega)
    refine ⟨k + 1, by omega, ?_⟩
    rw [← Nat.toDigits_append_toDigits hb hm hd, Nat.toDigits_of_lt_base hd, List.append_assoc, hq]
    simp only [List.singleton_append, scanDigits, hne, if_false, hv, hd, if_true]
    congr 2
    rw [Nat.pow_succ, Nat.add_mul, Nat.mul_assoc, Nat.add_assoc, Nat.mul_comm m b]

theorem scanDigits_toDigits (n : Nat) : ∀ (rest : List Char) (st : ScanSt),
    ∃ k, 0 < k ∧ scanDigits 10 (Nat.toDigits 10 n ++ rest) st =
      scanDigits 10 rest { st with acc := st.acc * 10 ^ k + n, count := st.count + k, prevDigit := true, prevSep := false } :=
  scanDigits_toDigits_base (by decide) (by decide) n

/-- `big.Int.Text(16)` is the base-16 print of core -/
theorem natToHex_eq_toDigits (n : Nat) : natToHex n = Nat.toDigits 16 n := by
  have hc : ∀ m : Fin 16, hexChar m.val = Nat.digitChar m.val := by decide
  induction n using Nat.strongRecOn with
  | _ n ih =>
    rw [natToHex, Nat.toDigits_eq_if (by decide)]
    split
    · rename_i h; rw [hc ⟨n, h⟩]
    · rw [ih (n / 16) (by omega), hc ⟨n % 16, by omega⟩]

theorem scanNat0_hex (n : Nat) : scanNat0 ('0' :: 'x' :: natToHex n) = some n := by
  obtain ⟨k, hk, hq⟩ := scanDigits_toDigits_base (b := 16) (by decide) (by decide) n [] ⟨0, 0, true, false, false⟩
  rw [List.append_nil] at hq
  rw [natToHex_eq_toDigits]
  cases hh : Nat.toDigits 16 n with
  | nil => exact absurd hh Nat.toDigits_ne_nil
  | cons c cs =>
    rw [hh] at hq
    have hx1 : ¬ (('x' : Char) = 'b' ∨ ('x' : Char) = 'B') := by decide
    have hx2 : ¬ (('x' : Char) = 'o' ∨ ('x' : Char) = 'O') := by decide
    simp only [scanNat0, hx1, hx2, if_false, true_or, if_true, hq]
    simp [scanDigits]
    omega

/-- **HexUint64 / non-negative HexInteger: print, then parse, is the identity.** -/
theorem hex_print_parse (n : Nat) : setString0 (hexUint64String n) = some (n : Int) := by
  show (scanNat0 ('0' :: 'x' :: natToHex n)).map (fun m => (m : Int)) = some (n : Int)
  rw [scanNat0_hex]; rfl

/-- the hex digits carry no leading zero (except for zero itself, printed "0") -/
theorem natToHex_no_leading_zero (n : Nat) (hn : 0 < n) : (natToHex n).head? ≠ some '0' := by
  rw [natToHex_eq_toDigits]; exact Lemmas.Decimal.head_toDigits (by decide) hn

theorem scanNat0_dec (n : Nat) : scanNat0 (Nat.toDigits 10 n) = some n := by
  by_cases hn : n = 0
  · subst hn; rfl
  · have h0 := Lemmas.Decimal.head_toDigits (b := 10) (by decide) (Nat.pos_of_ne_zero hn)
    obtain ⟨k, hk, hq⟩ := scanDigits_toDigits n [] ⟨0, 0, false, false, false⟩
    rw [List.append_nil] at hq
    unfold scanNat0
    split
    · rename_i heq; rw [heq] at h0; exact absurd rfl h0
    · rename_i heq; rw [heq] at h0; exact absurd rfl h0
    · rw [hq]
      simp [scanDigits]
      omega

/-- a sign, then a numeral that starts with a digit: `SetString(s, 0)` takes the sign off and scans the numeral
    (`big.Int.String`, `Text(16)` behind `0x` and the ABI serializers all print this shape) -/
theorem setString0_signed (z : Int) {ds : List Char} (hd : ∀ c ∈ ds.head?, 48 ≤ c.toNat ∧ c.toNat ≤ 57)
    (h : scanNat0 ds = some z.natAbs) : setString0 ((if z < 0 then ['-'] else []) ++ ds) = some z := by
  by_cases hz : z < 0
  · rw [if_pos hz]
    show (scanNat0 ds).map (fun n => -(n : Int)) = some z
    rw [h]
    exact congrArg some (show -((z.natAbs : Nat) : Int) = z by omega)
  · rw [if_neg hz, List.nil_append]
    cases ds with
    | nil => cases h
    | cons c cs =>
      have hc := hd c rfl
      have : setString0 (c :: cs) = (scanNat0 (c :: cs)).map fun n => (n : Int) := by
        unfold setString0
        split
        · rename_i heq; cases heq
        · rename_i heq; injection heq with h1 _; subst h1; exact absurd hc (by decide)
        · rename_i heq; injection heq with h1 _; subst h1; exact absurd hc (by decide)
        · rfl
      rw [this, h]
      exact congrArg some (show ((z.natAbs : Nat) : Int) = z by omega)

theorem int_toString_chars (z : Int) :
    (toString z).toList = (if z < 0 then ['-'] else []) ++ Nat.toDigits 10 z.natAbs := by
  cases z with
  | ofNat m =>
    have : ¬ (Int.ofNat m < 0) := by simp
    simp only [this, if_false, List.nil_append]
    show (Int.repr (Int.ofNat m)).toList = _
    simp [Int.repr, Nat.toList_repr]
  | negSucc m =>
    have : Int.negSucc m < 0 := Int.negSucc_lt_zero m
    simp only [this, if_true]
    show (Int.repr (Int.negSucc m)).toList = _
    simp [Int.repr, Nat.toList_repr, Int.natAbs]

/-- **Any integer printed in decimal parses back to itself** (`big.Int.String` / `SetString(s, 0)`). -/
theorem int_dec_print_parse (z : Int) : setString0 (toString z).toList = some z := by
  rw [int_toString_chars]
  exact setString0_signed z (fun c hc => Lemmas.Decimal.mem_toDigits (List.mem_of_mem_head? hc)) (scanNat0_dec _)

/-- prints in a base up to 16 are ASCII (so they survive the JSON string they are carried in) -/
theorem toDigits_small {b : Nat} (hb : 1 < b) (hb16 : b ≤ 16) (n : Nat) : ∀ c ∈ Nat.toDigits b n, c.toNat < 256 := by
  intro c hc
  obtain ⟨d, hd, rfl⟩ := Lemmas.Decimal.mem_toDigits_base hb n c hc
  exact (by decide : ∀ d : Fin 16, (Nat.digitChar d.val).toNat < 256) ⟨d, by omega⟩

theorem natToHex_small (n : Nat) : ∀ c ∈ natToHex n, c.toNat < 256 := by
  rw [natToHex_eq_toDigits]
  exact toDigits_small (by decide) (by decide) n

theorem signed_small (z : Int) {ds : List Char} (h : ∀ c ∈ ds, c.toNat < 256) :
    ∀ c ∈ (if z < 0 then ['-'] else []) ++ ds, c.toNat < 256 := by
  rw [List.forall_mem_append]
  refine ⟨?_, h⟩
  split
  · exact fun c hc => List.mem_singleton.mp hc ▸ by decide
  · exact fun c hc => nomatch hc

theorem int_toString_small (z : Int) : ∀ c ∈ (toString z).toList, c.toNat < 256 := by
  rw [int_toString_chars]
  exact signed_small z (toDigits_small (by decide) (by decide) _)

example : (bigIntegerFromString "0x1f".toList .fail .fail == .ok 31) = true := by decide +kernel
example : (bigIntegerFromString "1e3".toList (.int 1000) (.int 1000) == .ok 1000) = true := by decide +kernel
example : (bigIntegerFromString "1.5".toList .notInt .notInt == .err) = true := by decide +kernel

end FFS.Props.C19
