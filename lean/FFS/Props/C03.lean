/-
  Property C03 — ABI decode inverts encode, and JSON output round-trips.
  Model: FFS.Model.Abi.decode / decodeElem (abidecode.go), walkOutput / serInt / serBytes (outputserialization.go),
  walkInput (inputparsing.go).
  * **`decode_enc`** / **`decodeParams_enc`** : decoding the specification encoding of any well-typed value of any
        valid type — placed anywhere in a block, with anything before and after it — returns exactly that value
        (same integers, bytes, strings, array lengths, tuple structure). One induction over the well-typed
        (type, value) pairs (`decode_all`): static values are read in place, dynamic ones through their offset word
        relative to the head start; where the decoder's loops find the items of a head / tail layout is `Laid`.
        Hypotheses: elementary widths as the type parser admits them (`ElemOK`, discharged from the regenerated table by
        `table_decoders`), every offset / length word below 2^32 (`Small`: the decoder refuses wider words), and a
        dynamic array of more than 65536 elements has elements with a non-empty encoding (the cap of fix 450384a).
        Together with C02.encode_eq_spec (the code's encoder produces the specification encoding) this is
        decode (encode v) = v for the model of the code.
  * `number_only_if_exact` : in the "number if it fits" mode an integer is emitted as a JSON number exactly when
        |z| ≤ 2^53 − 1, otherwise as a string — never a rounded number.
  * **`readback`** : serializing a value and walking the JSON back in as input returns the value, in flat-array and
        object mode with hexadecimal or decimal integer strings and hexadecimal bytes / addresses (`HexCfg`); string
        leaves ASCII (`StrOK`).
  PARTIAL: the other modes and serializers (self-describing, JSON numbers, base64) are decided by the correspondence
  run (Tier A), not proved here.
-/
import FFS.Model.AbiIO
import FFS.Lemmas.Abi
import FFS.Lemmas.AbiDecode
import FFS.Lemmas.Assoc
import FFS.Props.C19
namespace FFS.Props.C03
open FFS FFS.Model.Abi FFS.Spec.Abi

theorem int_word_roundtrip (z : Int) (hlo : -(2 : Int) ^ 255 ≤ z) (hhi : z < 2 ^ 255) :
    parseInt256 (serializeInt256 z) = z := by
  unfold parseInt256 serializeInt256
  have hn : (z % 2 ^ 256).toNat < 256 ^ 32 := by rw [pow256_32]; omega
  rw [fromBE_toBE, Nat.mod_eq_of_lt hn]
  simp only []
  split <;> omega

theorem number_only_if_exact (z : Int) :
    (∃ s, serInt .numberIfFits z = .num s) ↔ (-9007199254740991 ≤ z ∧ z ≤ 9007199254740991) := by
  have hdef : serInt .numberIfFits z =
      if z > 9007199254740991 ∨ z < -9007199254740991 then J.str (asciiBytes (toString z).toList) else J.num (toString z) := rfl
  rw [hdef]
  constructor
  · rintro ⟨s, h⟩
    split at h
    · cases h
    · omega
  · exact fun h => ⟨toString z, by rw [if_neg (by omega)]⟩

theorem exact_bound : (9007199254740991 : Int) = 2 ^ 53 - 1 := by decide

def At (block : Bytes) (p : Nat) (bs : Bytes) : Prop := ∃ pre post, block = pre ++ bs ++ post ∧ pre.length = p

theorem At.left {block : Bytes} {p : Nat} {a b : Bytes} (h : At block p (a ++ b)) : At block p a := by
  obtain ⟨pre, post, hb, hp⟩ := h
  exact ⟨pre, b ++ post, by rw [hb]; simp [List.append_assoc], hp⟩

theorem At.right {block : Bytes} {p : Nat} {a b : Bytes} (h : At block p (a ++ b)) : At block (p + a.length) b := by
  obtain ⟨pre, post, hb, hp⟩ := h
  exact ⟨pre ++ a, post, by rw [hb]; simp [List.append_assoc], by simp [hp]⟩

theorem At.bound {block : Bytes} {p : Nat} {bs : Bytes} (h : At block p bs) : p + bs.length ≤ block.length := by
  obtain ⟨pre, post, hb, hp⟩ := h
  rw [hb]; simp; omega

theorem At.slice {block : Bytes} {p : Nat} {bs : Bytes} (h : At block p bs) : (block.drop p).take bs.length = bs := by
  obtain ⟨pre, post, hb, hp⟩ := h
  subst hp
  rw [hb, List.append_assoc, List.drop_left, List.take_left]

theorem At.slice?_eq {block : Bytes} {p : Nat} {bs : Bytes} (h : At block p bs) :
    slice? block p (p + bs.length) = .ok bs := by
  rw [slice?_ok (by omega) h.bound, show p + bs.length - p = bs.length by omega, h.slice]

theorem At.nil (block : Bytes) (p : Nat) (hp : p ≤ block.length) : At block p [] :=
  ⟨block.take p, block.drop p, by simp, by simp [hp]⟩

theorem At.sub {block : Bytes} {p : Nat} {bs : Bytes} (h : At block p bs) (k : Nat) (hk : k ≤ bs.length) :
    At block (p + k) (bs.drop k) := by
  rw [← List.take_append_drop k bs] at h
  simpa [List.length_take, Nat.min_eq_left hk] using h.right

theorem decodeLength_at (block : Bytes) (p n : Nat) (h : At block p (toBE 32 n)) (hn : n < 2 ^ 32) :
    decodeLength block p = .ok n := by
  have hb := h.bound
  have hs := h.slice?_eq
  rw [toBE_length] at hb hs
  rw [decodeLength, if_neg (by omega), hs]
  simp only []
  rw [fromBE_toBE, Nat.mod_eq_of_lt (lt_pow256_32 hn (by decide)), if_neg (by have := (bitLen_le_iff n 32).mpr hn; omega)]

/-- name, decoder, dynamic kind and width of an elementary type as `parseElementary` produces them -/
def ElemOK (info : ElemInfo) (suffix : String) (m : Nat) : Prop :=
  (info.name = "int" ∧ codecOf info.dec = .sint ∧ info.dyn = .never ∧ 8 ≤ m ∧ m ≤ 256 ∧ m % 8 = 0) ∨
  (info.name = "uint" ∧ codecOf info.dec = .uint ∧ info.dyn = .never ∧ 8 ≤ m ∧ m ≤ 256 ∧ m % 8 = 0) ∨
  (info.name = "address" ∧ codecOf info.dec = .uint ∧ info.dyn = .never ∧ m = 160) ∨
  (info.name = "bool" ∧ codecOf info.dec = .uint ∧ info.dyn = .never ∧ m = 8) ∨
  (info.name = "bytes" ∧ codecOf info.dec = .bytes ∧ info.dyn = .whenNoSuffix ∧
      ((suffix = "" ∧ m = 0) ∨ (suffix ≠ "" ∧ 1 ≤ m ∧ m ≤ 32))) ∨
  (info.name = "function" ∧ codecOf info.dec = .bytes ∧ info.dyn = .never ∧ m = 24) ∨
  (info.name = "string" ∧ codecOf info.dec = .string ∧ info.dyn = .always ∧ m = 0)

theorem table_decoders :
    (Gen.AbiTypeTable.table.map fun i => (i.name, codecOf i.dec, i.dyn)) =
      [("address", .uint, .never), ("bool", .uint, .never), ("bytes", .bytes, .whenNoSuffix), ("fixed", .float, .never),
       ("function", .bytes, .never), ("int", .sint, .never), ("string", .string, .always), ("ufixed", .float, .never),
       ("uint", .uint, .never)] := by decide +kernel

theorem ElemOK.shape {info : ElemInfo} {sfx : String} {m : Nat} (h : ElemOK info sfx m) :
    ElemRow info.name sfx m (codecOf info.dec) := by
  rcases h with ⟨a, b, _, c⟩ | ⟨a, b, _, c⟩ | ⟨a, b, _, c⟩ | ⟨a, b, _, c⟩ | ⟨a, b, _, c⟩ | ⟨a, b, _, c⟩ | ⟨a, b, _, c⟩ <;>
    simp [ElemRow, a, b, c]

theorem pow_mono_int (a b : Nat) (h : a ≤ b) : (2 : Int) ^ a ≤ 2 ^ b := by
  have : (2 : Nat) ^ a ≤ 2 ^ b := Nat.pow_le_pow_right (by decide) h
  exact_mod_cast this

theorem decode_sint_at (info : ElemInfo) (m : Nat) (z : Int) (hc : codecOf info.dec = .sint) (hlo : -(2 : Int) ^ 255 ≤ z)
    (hhi : z < 2 ^ 255) (block : Bytes) (hs hp : Nat) (hat : At block hp (toBE 32 (z % 2 ^ 256).toNat)) :
    decodeElem info m block hs hp = .ok (.int z) := by
  have hb := hat.bound
  have hsl := hat.slice?_eq
  rw [toBE_length] at hb hsl
  unfold decodeElem
  simp only [hc]
  rw [if_neg (by omega), hsl]
  exact congrArg (fun z => Outcome.ok (CV.int z)) (int_word_roundtrip z hlo hhi)

theorem decode_uint_at (info : ElemInfo) (m n : Nat) (hc : codecOf info.dec = .uint) (hm : m ≤ 256) (hm8 : m % 8 = 0)
    (hn : n < 2 ^ m) (block : Bytes) (hs hp : Nat) (hat : At block hp (toBE 32 n)) :
    decodeElem info m block hs hp = .ok (.int n) := by
  have hb := hat.bound
  -- the decoder reads only the low `m / 8` bytes of the word
  have hsl := (hat.sub (32 - m / 8) (by rw [toBE_length]; omega)).slice?_eq
  rw [toBE_length] at hb
  rw [List.length_drop, toBE_length, show hp + (32 - m / 8) + (32 - (32 - m / 8)) = hp + 32 by omega] at hsl
  have hpow : 256 ^ (32 - (32 - m / 8)) = 2 ^ m := by
    rw [show 32 - (32 - m / 8) = m / 8 by omega, pow256, show 8 * (m / 8) = m by omega]
  unfold decodeElem
  simp only [hc]
  rw [if_neg (by omega), hsl, Outcome.ok_bind, fromBE_drop_toBE 32 _ n (by omega), hpow, Nat.mod_eq_of_lt hn]

/-- **uint<M> / address / bool words round-trip.** -/
theorem uint_word_roundtrip (info : ElemInfo) (m n : Nat) (hc : codecOf info.dec = .uint)
    (hm : m ≤ 256) (hm8 : m % 8 = 0) (hn : n < 2 ^ m) :
    decodeElem info m (toBE 32 n) 0 0 = .ok (.int n) :=
  decode_uint_at info m n hc hm hm8 hn _ 0 0 ⟨[], [], by simp, rfl⟩

theorem readBytes_fixed_at (m : Nat) (b : Bytes) (hlen : b.length = m) (h1 : 1 ≤ m) (block : Bytes) (hs hp : Nat)
    (hat : At block hp b) : readBytes m block hs hp = .ok b := by
  have hb := hat.bound
  rw [readBytes, if_neg (by omega), if_neg (by omega), ← hlen, hat.slice]

theorem readBytes_dyn_at (b : Bytes) (block : Bytes) (hs hp off : Nat) (hoff : At block hp (toBE 32 off)) (hoff32 : off < 2 ^ 32)
    (hdat : At block (hs + off) (Spec.Abi.encUint b.length ++ Spec.Abi.padRight32 b)) (hlen32 : b.length < 2 ^ 32) :
    readBytes 0 block hs hp = .ok b := by
  have hr := hdat.right
  rw [encUint, toBE_length, padRight32] at hr
  have hb := hr.left.bound
  rw [readBytes, if_pos rfl, decodeLength_at block hp off hoff hoff32, Outcome.ok_bind,
    decodeLength_at block (hs + off) b.length hdat.left hlen32, Outcome.ok_bind, if_neg (by omega), hr.left.slice]

mutual
  def ValidTy : Ty → Prop
    | .elem info suffix m _ => ElemOK info suffix m
    | .farr t _ => ValidTy t
    | .darr t => ValidTy t
    | .tuple _ ts => ValidTys ts
  def ValidTys : List Ty → Prop
    | [] => True
    | t :: ts => ValidTy t ∧ ValidTys ts
end

mutual
  theorem isDynamicType_eq : ∀ (t : Ty), ValidTy t → isDynamicType t = Spec.Abi.isDynamic t
    | .elem info suffix m n, hv => by
      rw [isDynamicType, Spec.Abi.isDynamic]
      rcases hv with ⟨hn, _, hd, _⟩ | ⟨hn, _, hd, _⟩ | ⟨hn, _, hd, _⟩ | ⟨hn, _, hd, _⟩ | ⟨hn, _, hd, _⟩ | ⟨hn, _, hd, _⟩ | ⟨hn, _, hd, _⟩ <;>
        simp [hn, hd]
    | .farr t k, hv => by
      rw [isDynamicType, Spec.Abi.isDynamic, isDynamicType_eq t hv]
      by_cases hk : k = 0 <;> simp [hk]
    | .darr t, _ => by rw [isDynamicType, Spec.Abi.isDynamic]
    | .tuple ns ts, hv => by
      rw [isDynamicType, Spec.Abi.isDynamic, anyDynamic_eq ts hv]
  theorem anyDynamic_eq : ∀ (ts : List Ty), ValidTys ts → anyDynamic ts = Spec.Abi.anyDyn ts
    | [], _ => by rw [anyDynamic, Spec.Abi.anyDyn]
    | t :: ts, hv => by
      rw [anyDynamic, Spec.Abi.anyDyn, isDynamicType_eq t hv.1, anyDynamic_eq ts hv.2]
end

/-- bytes placed in the tail area -/
def tailLen : List (Bool × Bytes) → Nat
  | [] => 0
  | (dyn, e) :: r => (if dyn then e.length else 0) + tailLen r

/-- every offset and length word of a node fits 32 bits (the decoder refuses wider ones) -/
def LayoutSmall (items : List (Bool × Bytes)) : Prop := Spec.Abi.headsLen items + tailLen items < 2 ^ 32

mutual
  def Small : Ty → CV → Prop
    | .elem _ _ _ _, .bytes b => b.length < 2 ^ 32
    | .elem _ _ _ _, .str b => b.length < 2 ^ 32
    | .farr t _, .kids cs => SmallSame t cs ∧ LayoutSmall (Spec.Abi.encSame t cs)
    | .darr t, .kids cs => SmallSame t cs ∧ LayoutSmall (Spec.Abi.encSame t cs) ∧ cs.length < 2 ^ 32 ∧
        (cs.length ≤ Gen.AbiCodecFacts.maxEmptyElementCount ∨ Spec.Abi.isDynamic t = true ∨ ∀ c ∈ cs, (Spec.Abi.enc t c).length ≠ 0)
    | .tuple _ ts, .kids cs => SmallEach ts cs ∧ LayoutSmall (Spec.Abi.encEach ts cs)
    | _, _ => True
  def SmallSame : Ty → List CV → Prop
    | _, [] => True
    | t, c :: cs => Small t c ∧ SmallSame t cs
  def SmallEach : List Ty → List CV → Prop
    | t :: ts, c :: cs => Small t c ∧ SmallEach ts cs
    | _, _ => True
end

/-- concatenation of the encodings (what the heads are when nothing is dynamic) -/
def flat : List (Bool × Bytes) → Bytes
  | [] => []
  | (_, e) :: r => e ++ flat r

/-- item `(d, e)` as the decoder meets it at head position `hp` under head start `p`: a static item sits at `hp`;
    a dynamic one sits at `p + off`, and the word at `hp` is `off` -/
def Put (block : Bytes) (p hp off : Nat) (d : Bool) (e : Bytes) : Prop :=
  if d then off < 2 ^ 32 ∧ At block hp (toBE 32 off) ∧ At block (p + off) e else At block hp e

/-- `Put` for each item in turn: heads from `hpos` on, tails from `p + hl + tb` on -/
def Laid (block : Bytes) (p hl : Nat) : List (Bool × Bytes) → Nat → Nat → Prop
  | [], _, _ => True
  | (d, e) :: r, tb, hpos =>
    Put block p hpos (hl + tb) d e ∧ Laid block p hl r (tb + if d then e.length else 0) (hpos + if d then 32 else e.length)

theorem laid_of_assembleGo (block : Bytes) (p hl : Nat) (items : List (Bool × Bytes)) : ∀ (tb hpos : Nat),
    hl + tb + tailLen items < 2 ^ 32 → At block hpos (assembleGo hl items tb).1 →
    At block (p + hl + tb) (assembleGo hl items tb).2 → Laid block p hl items tb hpos := by
  induction items with
  | nil => exact fun _ _ _ _ _ => trivial
  | cons i r ih =>
    intro tb hpos hb hath hatt
    obtain ⟨d, e⟩ := i
    cases d with
    | true =>
      simp only [assembleGo, if_true] at hath hatt
      simp only [tailLen, if_true] at hb
      refine ⟨⟨by omega, hath.left, by simpa only [Nat.add_assoc] using hatt.left⟩, ?_⟩
      have hh := hath.right
      rw [encUint, toBE_length] at hh
      exact ih (tb + e.length) (hpos + 32) (by omega) hh (by simpa only [Nat.add_assoc] using hatt.right)
    | false =>
      simp only [assembleGo, Bool.false_eq_true, if_false] at hath hatt
      simp only [tailLen, Bool.false_eq_true, if_false, Nat.zero_add] at hb
      exact ⟨hath.left, ih tb (hpos + e.length) hb hath.right hatt⟩

/-- a whole node: heads and tails both start where `assemble items` is placed -/
theorem laid_of_assemble {block : Bytes} {q : Nat} {items : List (Bool × Bytes)} (hs : LayoutSmall items)
    (hat : At block q (assemble items)) : Laid block q (headsLen items) items 0 q := by
  have ht := hat.right
  rw [assembleGo_heads_length] at ht
  exact laid_of_assembleGo block q _ items 0 q hs hat.left ht

/-- static items follow one another; head start, heads length and tail offset play no part -/
theorem laid_of_flat {block : Bytes} {p hl : Nat} : ∀ (items : List (Bool × Bytes)) (tb hpos : Nat),
    (∀ i ∈ items, i.1 = false) → At block hpos (flat items) → Laid block p hl items tb hpos
  | [], _, _, _, _ => trivial
  | (d, e) :: r, tb, hpos, h, hat => by
    cases h (d, e) (List.mem_cons_self ..)
    exact ⟨hat.left, laid_of_flat r tb _ (fun i hi => h i (List.mem_cons_of_mem _ hi)) hat.right⟩

theorem assembleGo_static (hl : Nat) : ∀ (items : List (Bool × Bytes)) (tb : Nat), (∀ i ∈ items, i.1 = false) →
    assembleGo hl items tb = (flat items, [])
  | [], _, _ => rfl
  | (d, e) :: r, tb, h => by
    cases h (d, e) (List.mem_cons_self ..)
    simp [assembleGo, flat, assembleGo_static hl r tb (fun i hi => h i (List.mem_cons_of_mem _ hi))]

theorem headsLen_static : ∀ (items : List (Bool × Bytes)), (∀ i ∈ items, i.1 = false) →
    Spec.Abi.headsLen items = (flat items).length :=
  fun items h => by rw [← assembleGo_heads_length 0 items 0, assembleGo_static 0 items 0 h]

theorem assemble_static (items : List (Bool × Bytes)) (h : ∀ i ∈ items, i.1 = false) : assemble items = flat items := by
  simp [assemble, assembleGo_static _ items 0 h]

/-- what "decode inverts encode" means at one node: a static value is read from where its encoding sits; a dynamic
    one through an offset word, relative to the head start -/
def DecOK (t : Ty) (v : CV) (block : Bytes) : Prop :=
  (Spec.Abi.isDynamic t = false → ∀ hs hp, At block hp (Spec.Abi.enc t v) →
      decode t block hs hp = .ok ((Spec.Abi.enc t v).length, v)) ∧
  (Spec.Abi.isDynamic t = true → ∀ hs hp off, off < 2 ^ 32 → At block hp (toBE 32 off) →
      At block (hs + off) (Spec.Abi.enc t v) → decode t block hs hp = .ok (32, v))

theorem DecOK.put {t : Ty} {v : CV} {block : Bytes} (h : DecOK t v block) {p hp off : Nat}
    (hput : Put block p hp off (isDynamic t) (enc t v)) :
    decode t block p hp = .ok (if isDynamic t then 32 else (enc t v).length, v) := by
  cases hd : isDynamic t with
  | true => rw [Put, hd, if_pos rfl] at hput; exact h.2 hd p hp off hput.1 hput.2.1 hput.2.2
  | false => rw [Put, hd, if_neg Bool.false_ne_true] at hput; exact h.1 hd p hp hput

theorem decode_elem_ok (info : ElemInfo) (suffix : String) (m n : Nat) (v : CV) (block : Bytes)
    (hok : ElemOK info suffix m) (hw : Spec.Abi.WellTyped (.elem info suffix m n) v = true)
    (hs32 : Small (.elem info suffix m n) v) : DecOK (.elem info suffix m n) v block := by
  have h := leaf_of hok.shape hw
  simp only [DecOK, enc, decode]
  generalize encElem info suffix m v = e, isDynamic (.elem info suffix m n) = d at h ⊢
  cases h with
  | sint z _ hc h8 h256 hmod hlo hhi =>
    refine ⟨fun _ hs hp hat => ?_, fun h => Bool.noConfusion h⟩
    have := pow_mono_int (m - 1) 255 (by omega)
    rw [decode_sint_at info m z hc (by omega) (by omega) block hs hp hat, toBE_length]
  | uint z _ hc h256 hmod h0 hlt =>
    refine ⟨fun _ hs hp hat => ?_, fun h => Bool.noConfusion h⟩
    rw [decode_uint_at info m z.toNat hc h256 hmod ((toNat_lt_pow_iff h0 m).mpr hlt) block hs hp hat,
      Int.toNat_of_nonneg h0, toBE_length]
  | fixed b _ hc h1 _ hlen =>
    refine ⟨fun _ hs hp hat => ?_, fun h => Bool.noConfusion h⟩
    rw [decodeElem_eq, hc, readBytes_fixed_at m b hlen h1 block hs hp hat.left, List.length_append, hlen, zeros,
      List.length_replicate, show m + (32 - m) = 32 by omega]
    rfl
  | bytes b _ hc hm =>
    subst hm
    refine ⟨fun h => Bool.noConfusion h, fun _ hs hp off hoff hato hatd => ?_⟩
    rw [decodeElem_eq, hc, readBytes_dyn_at b block hs hp off hato hoff hatd hs32]
    rfl
  | string b _ hc hm =>
    subst hm
    refine ⟨fun h => Bool.noConfusion h, fun _ hs hp off hoff hato hatd => ?_⟩
    rw [decodeElem_eq, hc, readBytes_dyn_at b block hs hp off hato hoff hatd hs32]
    rfl

theorem encSame_static {t : Ty} {cs : List CV} (hst : isDynamic (.farr t cs.length) = false) :
    ∀ i ∈ encSame t cs, i.1 = false := by
  intro i hi
  rw [encSame_flags t cs i hi]
  cases cs with
  | nil => nomatch hi
  | cons c cs => simpa [isDynamic] using hst

/-- the decoder's two loops over child lists return the children from wherever the items of their encodings are laid out -/
theorem decode_all (block : Bytes) :
    (∀ t v, WellTyped t v = true → ValidTy t → Small t v → DecOK t v block) ∧
    (∀ ts cs, wellTypedEach ts cs = true → ValidTys ts → SmallEach ts cs → ∀ p hl tb hpos,
      Laid block p hl (encEach ts cs) tb hpos → decodeList ts block p hpos = .ok (headsLen (encEach ts cs), cs)) ∧
    (∀ t cs, wellTypedSame t cs = true → ValidTy t → SmallSame t cs → ∀ over p hl tb hpos,
      (over = true → isDynamic t = true ∨ ∀ c ∈ cs, (enc t c).length ≠ 0) → Laid block p hl (encSame t cs) tb hpos →
      decodeRepeatDyn (decode t block) over cs.length p hpos = .ok (headsLen (encSame t cs), cs)) := by
  apply wellTyped_induct
  case elem =>
    exact fun info sfx m n v hw hv hs => decode_elem_ok info sfx m n v block hv hw hs
  case farr =>
    intro t cs _ ih hv hs
    have hdt := isDynamicType_eq _ hv
    -- a fixed array is read by the plain loop: the dynamic array's loop with the zero-size check off
    have ih : ∀ p hl tb hpos, Laid block p hl (encSame t cs) tb hpos →
        decodeRepeat (decode t block) cs.length p hpos = .ok (headsLen (encSame t cs), cs) := fun p hl tb hpos h =>
      decodeRepeatDyn_false .. ▸ ih hv hs.1 false p hl tb hpos (fun h => nomatch h) h
    constructor
    · intro hst p hp hat
      have hfl := encSame_static hst
      rw [enc, assemble_static _ hfl] at hat ⊢
      rw [decode_farr, hdt, hst, if_neg Bool.false_ne_true, ih p 0 0 hp (laid_of_flat _ _ _ hfl hat), headsLen_static _ hfl]
      rfl
    · intro hdy p hp off hoff hato hatd
      rw [decode_farr, hdt, hdy, if_pos rfl, decodeLength_at block hp off hato hoff, Outcome.ok_bind,
        ih _ _ _ _ (laid_of_assemble hs.2 hatd)]
      rfl
  case darr =>
    intro t cs _ ih hv hs
    refine ⟨fun h => Bool.noConfusion h, fun _ p hp off hoff hato hatd => ?_⟩
    rw [enc] at hatd
    have hcnt := hatd.left
    have hr := hatd.right
    rw [encUint, toBE_length] at hr
    rw [decode_darr, decodeLength_at block hp off hato hoff, Outcome.ok_bind,
      decodeLength_at block (p + off) cs.length hcnt hs.2.2.1, Outcome.ok_bind,
      ih hv hs.1 _ _ _ _ _ (fun hov => (hs.2.2.2.resolve_left (by simpa using hov))) (laid_of_assemble hs.2.1 hr)]
    rfl
  case tuple =>
    intro ns ts cs _ ih hv hs
    have hdt := isDynamicType_eq _ hv
    constructor
    · intro hst p hp hat
      have hfl := encEach_flags ts cs hst
      rw [enc, assemble_static _ hfl] at hat ⊢
      rw [decode_tuple, hdt, hst, if_neg Bool.false_ne_true, ih hv hs.1 p 0 0 hp (laid_of_flat _ _ _ hfl hat),
        headsLen_static _ hfl]
      rfl
    · intro hdy p hp off hoff hato hatd
      rw [decode_tuple, hdt, hdy, if_pos rfl, decodeLength_at block hp off hato hoff, Outcome.ok_bind,
        ih hv hs.1 _ _ _ _ (laid_of_assemble hs.2 hatd)]
      rfl
  case enil =>
    exact fun _ _ _ _ _ _ _ => rfl
  case econs =>
    intro t ts c cs _ _ ih ihs hv hs p hl tb hpos hlaid
    rw [encEach] at hlaid
    rw [decodeList_cons, (ih hv.1 hs.1).put hlaid.1, Outcome.ok_bind, ihs hv.2 hs.2 p hl _ _ hlaid.2]
    rfl
  case snil =>
    exact fun _ _ _ _ _ _ _ _ _ _ => rfl
  case scons =>
    intro t c cs _ _ ih ihs hv hs over p hl tb hpos hov hlaid
    rw [encSame] at hlaid
    have hnz : (Gen.AbiCodecFacts.zeroSizeCountBounded && over &&
        (if isDynamic t then 32 else (enc t c).length) == 0) = false := by
      cases hover : over with
      | false => simp
      | true =>
        rcases hov hover with h | h
        · simp [h]
        · cases isDynamic t <;> simp [h c (List.mem_cons_self ..)]
    rw [List.length_cons, decodeRepeatDyn, (ih hv hs.1).put hlaid.1]
    simp only [hnz, Bool.false_eq_true, if_false]
    rw [ihs hv hs.2 over p hl _ _ (fun h => (hov h).imp_right fun h' c' hc' => h' c' (List.mem_cons_of_mem _ hc')) hlaid.2]
    rfl

theorem decode_enc : ∀ (v : CV) (t : Ty) (block : Bytes), ValidTy t → Spec.Abi.WellTyped t v = true → Small t v →
    DecOK t v block :=
  fun v t block hv hw hs => (decode_all block).1 t v hw hv hs

/-- children of an array, read from an assembled head / tail layout whose heads start at `hpos` and whose tails
    start at `p + hl + tb` (`p` = head start of the array) -/
theorem same_general : ∀ (cs : List CV) (t : Ty) (block : Bytes), ValidTy t → Spec.Abi.wellTypedSame t cs = true → SmallSame t cs →
    ∀ (over : Bool) (p hl tb hpos : Nat), hl + tb + tailLen (Spec.Abi.encSame t cs) < 2 ^ 32 →
      (over = true → Spec.Abi.isDynamic t = true ∨ ∀ c ∈ cs, (Spec.Abi.enc t c).length ≠ 0) →
      At block hpos (Spec.Abi.assembleGo hl (Spec.Abi.encSame t cs) tb).1 →
      At block (p + hl + tb) (Spec.Abi.assembleGo hl (Spec.Abi.encSame t cs) tb).2 →
      decodeRepeatDyn (decode t block) over cs.length p hpos = .ok (Spec.Abi.headsLen (Spec.Abi.encSame t cs), cs) :=
  fun cs t block hv hw hs over p hl tb hpos hb hov hath hatt =>
    (decode_all block).2.2 t cs hw hv hs over p hl tb hpos hov (laid_of_assembleGo block p hl _ tb hpos hb hath hatt)

theorem same_static : ∀ (cs : List CV) (t : Ty) (block : Bytes), ValidTy t → Spec.Abi.wellTypedSame t cs = true → SmallSame t cs →
    Spec.Abi.isDynamic t = false → ∀ (hs hpos : Nat), At block hpos (flat (Spec.Abi.encSame t cs)) →
    decodeRepeat (decode t block) cs.length hs hpos = .ok ((flat (Spec.Abi.encSame t cs)).length, cs) := by
  intro cs t block hv hw hs hst p hpos hat
  have hfl : ∀ i ∈ encSame t cs, i.1 = false := fun i hi => (encSame_flags t cs i hi).trans hst
  rw [← decodeRepeatDyn_false, ← headsLen_static _ hfl]
  exact (decode_all block).2.2 t cs hw hv hs false p 0 0 hpos (fun h => nomatch h) (laid_of_flat _ _ _ hfl hat)

theorem each_static : ∀ (cs : List CV) (ts : List Ty) (block : Bytes), ValidTys ts → Spec.Abi.wellTypedEach ts cs = true → SmallEach ts cs →
    Spec.Abi.anyDyn ts = false → ∀ (hs hpos : Nat), At block hpos (flat (Spec.Abi.encEach ts cs)) →
    decodeList ts block hs hpos = .ok ((flat (Spec.Abi.encEach ts cs)).length, cs) := by
  intro cs ts block hv hw hs hany p hpos hat
  have hfl := encEach_flags ts cs hany
  rw [← headsLen_static _ hfl]
  exact (decode_all block).2.1 ts cs hw hv hs p 0 0 hpos (laid_of_flat _ _ _ hfl hat)

/-- **Round trip of a whole parameter list.** Decoding the specification encoding of any well-typed value of any valid
    parameter list — at any offset, with anything before and after it — returns exactly that value. -/
theorem decodeParams_enc (ns : List String) (ts : List Ty) (cs : List CV) (pre post : Bytes)
    (hv : ValidTys ts) (hw : Spec.Abi.wellTypedEach ts cs = true) (hs32 : Small (.tuple ns ts) (.kids cs)) :
    decodeParams ts (pre ++ Spec.Abi.enc (.tuple ns ts) (.kids cs) ++ post) pre.length = .ok (.kids cs) := by
  rw [decodeParams, enc, (decode_all _).2.1 ts cs hw hv hs32.1 _ _ _ _ (laid_of_assemble hs32.2 ⟨pre, post, rfl, rfl⟩)]

section jsonReadback
open FFS.Model.EthTypes

/-- the text `encoding/json` hands back for a serialized string (the renderings considered here are ASCII) -/
def charsOfBytes (b : Bytes) : List Char := b.map fun x => Char.ofNat x.toNat

theorem charsOfBytes_ascii (cs : List Char) (h : ∀ c ∈ cs, c.toNat < 256) : charsOfBytes (asciiBytes cs) = cs := by
  rw [charsOfBytes, asciiBytes, List.map_map]
  refine (List.map_congr_left fun c hc => ?_).trans (List.map_id cs)
  show Char.ofNat (UInt8.ofNat c.toNat).toNat = c
  rw [UInt8.toNat_ofNat', Nat.mod_eq_of_lt (h c hc), Char.ofNat_toNat]

/-- **An integer printed in hexadecimal (with sign) is read back as exactly that integer.** -/
theorem serInt_hex_readback (z : Int) :
    setString0 ((if z < 0 then ['-'] else []) ++ '0' :: 'x' :: natToHex z.natAbs) = some z :=
  C19.setString0_signed z (fun c hc => Option.some.inj hc ▸ by decide) (C19.scanNat0_hex _)

mutual
  /-- what the input walk is given when the serialized tree is read back as JSON (`fl`, `rat`: whatever the external
      number parsers say about a string — irrelevant for the hexadecimal renderings) -/
  def jToExt (fl rat : ExtNum) : J → Ext
    | .bool b => .bool b
    | .num lit => .num lit fl rat
    | .str b => .str (String.ofList (charsOfBytes b)) fl rat
    | .arr xs => .arr (jsToExt fl rat xs)
    | .obj ks vs => .obj ks (jsToExt fl rat vs)
  def jsToExt (fl rat : ExtNum) : List J → List Ext
    | [] => []
    | x :: xs => jToExt fl rat x :: jsToExt fl rat xs
end

theorem jsToExt_length (fl rat : ExtNum) : ∀ xs, (jsToExt fl rat xs).length = xs.length
  | [] => rfl
  | _ :: xs => by simp [jsToExt, jsToExt_length fl rat xs]

/-- flat-array or object mode with integers as hexadecimal or decimal strings and hexadecimal bytes / addresses (any of
    the four address renderings, the EIP-55 checksum form included) -/
def HexCfg (cfg : SerCfg) : Prop :=
  (cfg.mode = .flatArrays ∨ cfg.mode = .objects) ∧ (cfg.ints = .hex0x ∨ cfg.ints = .base10) ∧ (cfg.bytes = .hex ∨ cfg.bytes = .hex0x) ∧
  (cfg.addr = .none ∨ cfg.addr = .hex0x ∨ cfg.addr = .plain ∨ cfg.addr = .checksum)

def ReadOK (info : ElemInfo) : Prop :=
  (info.name = "int" ∨ info.name = "uint" → info.reader = "getIntegerFromInterface") ∧
  (info.name = "address" → info.reader = "getUintBytesFromInterface") ∧
  (info.name = "bool" → info.reader = "getBoolAsUnsignedIntegerFromInterface") ∧
  (info.name = "bytes" ∨ info.name = "function" → info.reader = "getBytesFromInterface") ∧
  (info.name = "string" → info.reader = "getStringFromInterface")

theorem table_readers : ∀ info ∈ Gen.AbiTypeTable.table, ReadOK info := by
  intro info hi
  simp only [Gen.AbiTypeTable.table, List.mem_cons, List.mem_nil_iff, or_false] at hi
  rcases hi with h | h | h | h | h | h | h | h | h <;> subst h <;> simp [ReadOK]

theorem hexish_readback (pre : List Char) (hpre : pre = [] ∨ pre = ['0', 'x']) (a : Bytes) :
    hexDecode (trim0x (charsOfBytes (asciiBytes (pre ++ hexEncode a)))) = some a := by
  have hsmall : ∀ c ∈ pre ++ hexEncode a, c.toNat < 256 := by
    rw [List.forall_mem_append]
    exact ⟨by rcases hpre with rfl | rfl <;> decide, FFS.Lemmas.Eip55.hexEncode_small a⟩
  rw [charsOfBytes_ascii _ hsmall]
  rcases hpre with rfl | rfl
  · rw [List.nil_append, C19.trim0x_hexEncode, C19.hexDecode_hexEncode]
  · exact C19.hexDecode_hexEncode a

/-- the EIP-55 checksum rendering of an address reads back as the address (the reader ignores letter case) -/
theorem checksum_readback (a : Bytes) (h20 : a.length = 20) :
    hexDecode (trim0x (charsOfBytes (asciiBytes (addressChecksumString a)))) = some a := by
  rw [C19.checksum_is_eip55 a h20, charsOfBytes_ascii _ (FFS.Lemmas.Eip55.eip55_small a)]
  obtain ⟨cs, he, hd⟩ := FFS.Lemmas.Eip55.eip55_decodes a
  rw [he]
  show hexDecode cs = some a
  rw [hd, C19.hexDecode_hexEncode]

/-- string leaves that are the UTF-8 encoding of the text `jToExt` makes of them: the ASCII ones and no other (a byte
    from 0x80 up becomes a character of two UTF-8 bytes) -/
def StrLeafOK : CV → Prop
  | .str b => Model.Abi.utf8 (String.ofList (charsOfBytes b)) = b
  | _ => True

theorem getBytes_str (cs : List Char) (a : Bytes) (fl rat : ExtNum)
    (h : hexDecode (trim0x (charsOfBytes (asciiBytes cs))) = some a) : getBytes (jToExt fl rat (.str (asciiBytes cs))) = .ok a := by
  simp only [jToExt, getBytes, String.toList_ofList]
  rw [h]

theorem serBytes_readback (s : ByteSer) (hs : s = .hex ∨ s = .hex0x) (a : Bytes) (fl rat : ExtNum) :
    getBytes (jToExt fl rat (serBytes s a)) = .ok a := by
  rcases hs with rfl | rfl
  · exact getBytes_str _ a fl rat (hexish_readback [] (.inl rfl) a)
  · exact getBytes_str _ a fl rat (hexish_readback ['0', 'x'] (.inr rfl) a)

theorem read_int {info : ElemInfo} (h : info.reader = "getIntegerFromInterface") (x : Ext) :
    readElementary info x = (getInteger x).map .int := if_pos h

theorem read_addr {info : ElemInfo} (h : info.reader = "getUintBytesFromInterface") (x : Ext) :
    readElementary info x = (getBytes x).map fun b => .int (fromBE b) := by simp [readElementary, h]

theorem read_bool {info : ElemInfo} (h : info.reader = "getBoolAsUnsignedIntegerFromInterface") (x : Ext) :
    readElementary info x = (getBool x).map .int := by simp [readElementary, h]

theorem read_bytes {info : ElemInfo} (h : info.reader = "getBytesFromInterface") (x : Ext) :
    readElementary info x = (getBytes x).map .bytes := by simp [readElementary, h]

theorem read_str {info : ElemInfo} (h : info.reader = "getStringFromInterface") (x : Ext) :
    readElementary info x = (getString x).map .str := by simp [readElementary, h]

theorem serInt_readback (s : IntSer) (hs : s = .hex0x ∨ s = .base10) (z : Int) (fl rat : ExtNum) :
    getInteger (jToExt fl rat (serInt s z)) = .ok z := by
  rcases hs with rfl | rfl <;> simp only [serInt, jToExt, getInteger, bigIntegerFromString]
  · have hsmall : ∀ c ∈ (if z < 0 then ['-'] else []) ++ '0' :: 'x' :: natToHex z.natAbs, c.toNat < 256 :=
      C19.signed_small z (List.forall_mem_cons.mpr ⟨by decide, List.forall_mem_cons.mpr ⟨by decide, C19.natToHex_small _⟩⟩)
    rw [charsOfBytes_ascii _ hsmall, String.toList_ofList, serInt_hex_readback z]
  · rw [charsOfBytes_ascii _ (C19.int_toString_small z), String.toList_ofList, C19.int_dec_print_parse z]

theorem serAddr_readback (cfg : SerCfg) (hb : cfg.bytes = .hex ∨ cfg.bytes = .hex0x) {info : ElemInfo}
    (hn : info.name = "address") (z : Int) (h0 : 0 ≤ z) (hlt : z < 2 ^ 160) (fl rat : ExtNum) :
    ∃ j, serElem cfg info (.int z) = .ok j ∧
      (getBytes (jToExt fl rat j)).map (fun b => CV.int (fromBE b)) = .ok (.int z) := by
  have hzz : ((z.natAbs : Nat) : Int) = z := by omega
  have hz : z.natAbs < 256 ^ 20 := by
    have := (toNat_lt_pow_iff h0 160).mpr hlt
    rw [pow256 20]
    omega
  have hback : ∀ j, getBytes (jToExt fl rat j) = .ok (toBE 20 z.natAbs) →
      (getBytes (jToExt fl rat j)).map (fun b => CV.int (fromBE b)) = .ok (.int z) := fun j h => by
    rw [h, Outcome.map, fromBE_toBE, Nat.mod_eq_of_lt hz, hzz]
  unfold serElem
  simp only [hn, fillBytes?, if_pos hz, String.reduceEq, or_self, if_false, if_true]
  have h20 : (toBE 20 z.natAbs).length = 20 := toBE_length ..
  generalize toBE 20 z.natAbs = a at hback h20 ⊢
  cases cfg.addr with
  | none => exact ⟨_, rfl, hback _ (serBytes_readback _ hb a fl rat)⟩
  | hex0x => exact ⟨_, rfl, hback _ (getBytes_str _ a fl rat (hexish_readback ['0', 'x'] (.inr rfl) a))⟩
  | plain => exact ⟨_, rfl, hback _ (getBytes_str _ a fl rat (hexish_readback [] (.inl rfl) a))⟩
  | checksum => exact ⟨_, rfl, hback _ (getBytes_str _ a fl rat (checksum_readback a h20))⟩

/-- **Leaf: serialize, read the JSON back, get the same value** (the renderings of `HexCfg`). -/
theorem leaf_readback (cfg : SerCfg) (hcfg : HexCfg cfg) (info : ElemInfo) (sfx : String) (m n : Nat) (v : CV)
    (hok : ElemOK info sfx m) (hr : ReadOK info) (hw : Spec.Abi.WellTyped (.elem info sfx m n) v = true)
    (hs : StrLeafOK v) (fl rat : ExtNum) :
    ∃ j, serElem cfg info v = .ok j ∧ readElementary info (jToExt fl rat j) = .ok v := by
  obtain ⟨_, hints, hbytes, _⟩ := hcfg
  obtain ⟨rInt, rAddr, rBool, rBytes, rStr⟩ := hr
  have intCase : ∀ z : Int, (info.name = "int" ∨ info.name = "uint") →
      ∃ j, serElem cfg info (.int z) = .ok j ∧ readElementary info (jToExt fl rat j) = .ok (.int z) := fun z hn =>
    ⟨serInt cfg.ints z, by unfold serElem; simp [hn], by rw [read_int (rInt hn), serInt_readback _ hints]; rfl⟩
  have bytesCase : ∀ b : Bytes, (info.name = "bytes" ∨ info.name = "function") →
      ∃ j, serElem cfg info (.bytes b) = .ok j ∧ readElementary info (jToExt fl rat j) = .ok (.bytes b) := fun b hn =>
    ⟨serBytes cfg.bytes b, by unfold serElem; rcases hn with hn | hn <;> simp [hn],
      by rw [read_bytes (rBytes hn), serBytes_readback _ hbytes]; rfl⟩
  have h := leaf_of hok.shape hw
  generalize encElem info sfx m v = e, isDynamic (.elem info sfx m n) = d at h
  cases h with
  | sint z hn => exact intCase z (.inl hn)
  | uint z hn _ _ _ h0 hlt =>
    rcases hn with hn | ⟨hn, rfl⟩ | ⟨hn, hz⟩
    · exact intCase z (.inr hn)
    · obtain ⟨j, h1, h2⟩ := serAddr_readback cfg hbytes hn z h0 hlt fl rat
      exact ⟨j, h1, by rw [read_addr (rAddr hn), h2]⟩
    · refine ⟨.bool (FFS.Model.Secp.bigInt64 z == 1), by unfold serElem; simp [hn], ?_⟩
      rw [read_bool (rBool hn)]
      rcases hz with rfl | rfl <;> rfl
  | fixed b hn => exact bytesCase b hn
  | bytes b hn => exact bytesCase b (.inl hn)
  | string b hn =>
    refine ⟨.str b, by unfold serElem; simp [hn], ?_⟩
    rw [read_str (rStr hn)]
    exact congrArg (fun b => Outcome.ok (CV.str b)) hs

/-- the key under which tuple member `i` (0-based) named `n` is written and looked up -/
def effName (n : String) (i : Nat) : String := if n == "" then toString i else n

def effNames : List String → Nat → List String
  | [], _ => []
  | n :: ns, i => effName n i :: effNames ns (i + 1)

theorem effNames_length : ∀ (ns : List String) (i : Nat), (effNames ns i).length = ns.length
  | [], _ => rfl
  | _ :: ns, i => by simp [effNames, effNames_length ns (i + 1)]

theorem lookupKey_nodup : ∀ (keys : List String) (vals : List Ext) (j : Nat) (k : String) (v : Ext),
    keys.Nodup → keys[j]? = some k → vals[j]? = some v → lookupKey keys vals k = some v := by
  intro keys vals j k v hnd hk hv
  have hm : (k, v) ∈ (keys.zip vals).reverse :=
    List.mem_reverse.mpr (List.mem_of_getElem? (List.getElem?_zip_eq_some.mpr ⟨hk, hv⟩))
  have hn : ((keys.zip vals).reverse.map (·.1)).Nodup := by
    rw [List.map_reverse, (List.reverse_perm _).nodup_iff, List.zip_eq_zip_take_min, List.map_fst_zip (by simp)]
    exact hnd.sublist (List.take_sublist _ _)
  rw [lookupKey, Assoc.find?_of_mem hn hm]
  rfl

def AllWalk : List Ty → List Ext → List CV → Prop
  | t :: ts, x :: xs, c :: cs => walkInput t x = .ok c ∧ AllWalk ts xs cs
  | [], [], [] => True
  | _, _, _ => False

theorem allWalk_each : ∀ (ts : List Ty) (xs : List Ext) (cs : List CV), AllWalk ts xs cs → walkEach ts xs = .ok cs
  | [], [], [], _ => by simp [walkEach]
  | t :: ts, x :: xs, c :: cs, h => by
    rw [walkEach, h.1]
    simp only []
    rw [allWalk_each ts xs cs h.2]
    rfl
  | [], _ :: _, _, h | [], [], _ :: _, h | _ :: _, [], _, h | _ :: _, _ :: _, [], h => h.elim

/-- the map arm of the tuple walk succeeds when each effective name looks up the value at its position -/
theorem walkNamed_of_lookup (K : List String) (V : List Ext) :
    ∀ (ns : List String) (ts : List Ty) (xs : List Ext) (cs : List CV) (i : Nat), ns.length = ts.length →
      (∀ (j : Nat) k x, (effNames ns i)[j]? = some k → xs[j]? = some x → lookupKey K V k = some x) →
      AllWalk ts xs cs → walkNamed ns ts i K V = .ok cs
  | [], [], [], [], _, _, _, _ => by simp [walkNamed]
  | n :: ns, t :: ts, x :: xs, c :: cs, i, hl, look, ha => by
    have hrec := walkNamed_of_lookup K V ns ts xs cs (i + 1) (Nat.succ.inj hl) (fun j => look (j + 1)) ha.2
    have hkey : (if n == "" then toString i else n) = effName n i := rfl
    simp only [walkNamed, hkey, look 0 _ x rfl rfl, ha.1, hrec]
    rfl
  | [], _ :: _, _, _, _, hl, _, _ | _ :: _, [], _, _, _, hl, _, _ => nomatch hl
  | [], [], _ :: _, _, _, _, _, ha | [], [], [], _ :: _, _, _, _, ha
  | _ :: _, _ :: _, [], _, _, _, _, ha | _ :: _, _ :: _, _ :: _, [], _, _, _, ha => ha.elim

/-- the map arm of the tuple walk finds every member again when the keys are the (distinct) effective names -/
theorem walkNamed_ok (K : List String) (V : List Ext) (hnd : K.Nodup) :
    ∀ (ns : List String) (ts : List Ty) (xs : List Ext) (cs : List CV) (i : Nat) (Kpre : List String) (Vpre : List Ext),
      K = Kpre ++ effNames ns i → V = Vpre ++ xs → Kpre.length = i → Vpre.length = i → ns.length = ts.length →
      AllWalk ts xs cs → walkNamed ns ts i K V = .ok cs :=
  fun ns ts xs cs i Kpre Vpre hK hV hkl hvl hl ha => walkNamed_of_lookup K V ns ts xs cs i hl (fun j k x hk hx =>
    lookupKey_nodup K V (i + j) k x hnd
      (by rw [hK, List.getElem?_append_right (by omega), hkl, Nat.add_sub_cancel_left]; exact hk)
      (by rw [hV, List.getElem?_append_right (by omega), hvl, Nat.add_sub_cancel_left]; exact hx)) ha

mutual
  /-- types whose leaves are table rows with their readers, and whose tuples give their children distinct effective names -/
  def RT : Ty → Prop
    | .elem info sfx m _ => ElemOK info sfx m ∧ ReadOK info
    | .farr t _ => RT t
    | .darr t => RT t
    | .tuple names ts => names.length = ts.length ∧ (effNames names 0).Nodup ∧ RTs ts
  def RTs : List Ty → Prop
    | [] => True
    | t :: ts => RT t ∧ RTs ts
end

mutual
  def StrOK : CV → Prop
    | .kids cs => StrOKs cs
    | .str b => StrLeafOK (.str b)
    | .int _ => True
    | .bytes _ => True
  def StrOKs : List CV → Prop
    | [] => True
    | c :: cs => StrOK c ∧ StrOKs cs
end

theorem strOK_leaf : ∀ v, StrOK v → StrLeafOK v
  | .kids _, _ => trivial
  | .str _, h => h
  | .int _, _ => trivial
  | .bytes _, _ => trivial

theorem readback_all (cfg : SerCfg) (hcfg : HexCfg cfg) (fl rat : ExtNum) :
    (∀ t v, WellTyped t v = true → RT t → StrOK v →
      ∃ j, walkOutput cfg t v = .ok j ∧ walkInput t (jToExt fl rat j) = .ok v) ∧
    (∀ ts cs, wellTypedEach ts cs = true → ∀ (names : List String) (i : Nat), names.length = ts.length → RTs ts → StrOKs cs →
      ∃ kvs, outEach cfg names ts cs i = .ok kvs ∧ kvs.length = cs.length ∧ kvs.map (·.1) = effNames names i ∧
        AllWalk ts (jsToExt fl rat (kvs.map (·.2.2))) cs) ∧
    (∀ t cs, wellTypedSame t cs = true → RT t → StrOKs cs →
      ∃ js, outSame cfg t cs = .ok js ∧ js.length = cs.length ∧ walkSame t (jsToExt fl rat js) = .ok cs) := by
  apply wellTyped_induct
  case elem =>
    intro info sfx m n v hw hrt hs
    obtain ⟨j, h1, h2⟩ := leaf_readback cfg hcfg info sfx m n v hrt.1 hrt.2 hw (strOK_leaf v hs) fl rat
    exact ⟨j, by rw [walkOutput]; exact h1, by rw [walkInput]; exact h2⟩
  case farr =>
    intro t cs _ ih hrt hs
    obtain ⟨js, h1, h2, h3⟩ := ih hrt hs
    refine ⟨.arr js, by rw [walkOutput, h1]; rfl, ?_⟩
    rw [jToExt, walkInput]
    simp only [asSlice]
    rw [if_neg (by rw [jsToExt_length, h2]; simp), h3]
    rfl
  case darr =>
    intro t cs _ ih hrt hs
    obtain ⟨js, h1, _, h3⟩ := ih hrt hs
    refine ⟨.arr js, by rw [walkOutput, h1]; rfl, ?_⟩
    rw [jToExt, walkInput]
    simp only [asSlice]
    rw [h3]
    rfl
  case tuple =>
    intro names ts cs hw ih hrt hs
    obtain ⟨kvs, h1, h2, h3, h4⟩ := ih names 0 hrt.1 hrt.2.2 hs
    rcases hcfg.1 with hm | hm
    · refine ⟨.arr (kvs.map (·.2.2)), by rw [walkOutput, hm]; simp only []; rw [h1]; rfl, ?_⟩
      simp only [jToExt, walkInput, asSlice]
      rw [if_neg (by rw [jsToExt_length, List.length_map, h2, wellTypedEach_length ts cs hw]; simp), allWalk_each _ _ _ h4]
      rfl
    · refine ⟨.obj (kvs.map (·.1)) (kvs.map (·.2.2)), by rw [walkOutput, hm]; simp only []; rw [h1]; rfl, ?_⟩
      simp only [jToExt, walkInput, asSlice]
      rw [walkNamed_ok (kvs.map (·.1)) (jsToExt fl rat (kvs.map (·.2.2))) (by rw [h3]; exact hrt.2.1) names ts
        (jsToExt fl rat (kvs.map (·.2.2))) cs 0 [] [] (by rw [h3]; rfl) rfl rfl rfl hrt.1 h4]
      rfl
  case enil =>
    intro names i hl _ _
    cases names with
    | nil => exact ⟨[], rfl, rfl, rfl, trivial⟩
    | cons _ _ => cases hl
  case econs =>
    intro t ts c cs _ _ ih ihs names i hl hrt hs
    cases names with
    | nil => cases hl
    | cons nm names =>
      obtain ⟨j, h1, h2⟩ := ih hrt.1 hs.1
      obtain ⟨kvs, g1, g2, g3, g4⟩ := ihs names (i + 1) (Nat.succ.inj hl) hrt.2 hs.2
      refine ⟨((if nm == "" then toString i else nm), render t, j) :: kvs, by rw [outEach, h1]; simp only []; rw [g1]; rfl,
        by simp [g2], by simp only [List.map_cons, effNames, g3]; rfl, ?_⟩
      simp only [List.map_cons, jsToExt, AllWalk]
      exact ⟨h2, g4⟩
  case snil =>
    exact fun t _ _ => ⟨[], by rw [outSame], rfl, by rw [jsToExt, walkSame]⟩
  case scons =>
    intro t c cs _ _ ih ihs hrt hs
    obtain ⟨j, h1, h2⟩ := ih hrt hs.1
    obtain ⟨js, g1, g2, g3⟩ := ihs hrt hs.2
    refine ⟨j :: js, by rw [outSame, h1]; simp only []; rw [g1]; rfl, by simp [g2], ?_⟩
    rw [jsToExt, walkSame, h2]
    simp only []
    rw [g3]
    rfl

/-- **JSON output read back.** In flat-array and in object mode (member names distinct), with integers as hexadecimal or
    decimal strings and hexadecimal bytes and addresses, serializing any well-typed value of any valid type with ASCII
    string leaves (`StrOK`) and walking the resulting JSON tree as input returns exactly that value — so encoding it
    again reproduces the original bytes (`encode_eq_spec` is a function of the value). -/
theorem readback (cfg : SerCfg) (hcfg : HexCfg cfg) (fl rat : ExtNum) : (v : CV) → (t : Ty) → RT t →
    Spec.Abi.WellTyped t v = true → StrOK v →
    ∃ j, walkOutput cfg t v = .ok j ∧ walkInput t (jToExt fl rat j) = .ok v :=
  fun v t hrt hw hs => (readback_all cfg hcfg fl rat).1 t v hw hrt hs

theorem readback_same (cfg : SerCfg) (hcfg : HexCfg cfg) (fl rat : ExtNum) : (cs : List CV) → (t : Ty) → RT t →
    Spec.Abi.wellTypedSame t cs = true → StrOKs cs →
    ∃ js, outSame cfg t cs = .ok js ∧ js.length = cs.length ∧ walkSame t (jsToExt fl rat js) = .ok cs :=
  fun cs t hrt hw hs => (readback_all cfg hcfg fl rat).2.2 t cs hw hrt hs

theorem readback_each (cfg : SerCfg) (hcfg : HexCfg cfg) (fl rat : ExtNum) : (cs : List CV) → (names : List String) →
    (ts : List Ty) → (i : Nat) → names.length = ts.length → RTs ts → Spec.Abi.wellTypedEach ts cs = true → StrOKs cs →
    ∃ kvs, outEach cfg names ts cs i = .ok kvs ∧ kvs.length = cs.length ∧ kvs.map (·.1) = effNames names i ∧
      AllWalk ts (jsToExt fl rat (kvs.map (·.2.2))) cs :=
  fun cs names ts i hl hrt hw hs => (readback_all cfg hcfg fl rat).2.1 ts cs hw names i hl hrt hs

end jsonReadback

theorem uint256_ok : ∀ info ∈ Gen.AbiTypeTable.table, info.name = "uint" → ElemOK info "256" 256 := by
  intro info hmem hn
  have h := List.mem_map_of_mem (f := fun i => (i.name, codecOf i.dec, i.dyn)) hmem
  rw [table_decoders, hn] at h
  simp at h
  exact .inr (.inl ⟨hn, h.1, h.2, by decide, by decide, by decide⟩)

theorem string_ok : ∀ info ∈ Gen.AbiTypeTable.table, info.name = "string" → ElemOK info "" 0 := by
  intro info hmem hn
  have h := List.mem_map_of_mem (f := fun i => (i.name, codecOf i.dec, i.dyn)) hmem
  rw [table_decoders, hn] at h
  simp at h
  exact .inr (.inr (.inr (.inr (.inr (.inr ⟨hn, h.1, h.2, rfl⟩)))))

/-- non-vacuity of `decodeParams_enc` / `decode_enc`: `(uint256 a, string[] b)` with the value `(5, ["ab", ""])`
    meets every hypothesis -/
example : ∀ u ∈ Gen.AbiTypeTable.table, u.name = "uint" → ∀ s ∈ Gen.AbiTypeTable.table, s.name = "string" →
    ValidTys [.elem u "256" 256 0, .darr (.elem s "" 0 0)] ∧
    Spec.Abi.wellTypedEach [.elem u "256" 256 0, .darr (.elem s "" 0 0)]
      [.int 5, .kids [.str [0x61, 0x62], .str []]] = true ∧
    Small (.tuple ["a", "b"] [.elem u "256" 256 0, .darr (.elem s "" 0 0)]) (.kids [.int 5, .kids [.str [0x61, 0x62], .str []]]) := by
  intro u hu hun s hs hsn
  refine ⟨⟨uint256_ok u hu hun, string_ok s hs hsn, trivial⟩, ?_, ?_⟩
  · simp [Spec.Abi.WellTyped, Spec.Abi.wellTypedEach, Spec.Abi.wellTypedSame, hun, hsn]
  · simp [Small, SmallEach, SmallSame, LayoutSmall, Spec.Abi.encEach, Spec.Abi.encSame, Spec.Abi.enc, Spec.Abi.isDynamic,
      Spec.Abi.headsLen, tailLen, Spec.Abi.encElem, Spec.Abi.encUint, Spec.Abi.assemble, Spec.Abi.assembleGo, hun, hsn,
      Spec.Abi.padRight32, zeros, Gen.AbiCodecFacts.maxEmptyElementCount]

/-- non-vacuity of `readback`: the table rows for `uint` and `string` give an `RT` type, and an ASCII string leaf is
    `StrOK` (kernel-evaluated) -/
example : ∀ u ∈ Gen.AbiTypeTable.table, u.name = "uint" → ∀ s ∈ Gen.AbiTypeTable.table, s.name = "string" →
    RT (.tuple ["a", "b"] [.elem u "256" 256 0, .darr (.elem s "" 0 0)]) ∧
    StrOK (.kids [.int 5, .kids [.str [0x61, 0x62], .str []]]) ∧
    HexCfg { mode := .flatArrays, ints := .base10, bytes := .hex0x, addr := .hex0x } := by
  intro u hu hun s hs hsn
  refine ⟨?_, ?_, ⟨Or.inl rfl, Or.inr rfl, Or.inr rfl, Or.inr (Or.inl rfl)⟩⟩
  · exact ⟨rfl, by decide, ⟨uint256_ok u hu hun, table_readers u hu⟩, ⟨string_ok s hs hsn, table_readers s hs⟩, trivial⟩
  · simp only [StrOK, StrOKs, StrLeafOK, and_true, true_and]
    constructor <;> decide +kernel

end FFS.Props.C03

