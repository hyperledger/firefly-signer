/-
  Property C05 — secp256k1 sign / recover wrapper is consistent under every V convention.
  Model: FFS.Model.Secp (mirrors /repo/pkg/secp256k1; switch arms regenerated into Gen.SecpConsts).
  The curve library is a parameter `C` with hypotheses `C.Lawful` (not proved for secp256k1; see DESIGN §6).
-/
import FFS.Model.Secp
import FFS.Lemmas.Bytes
import FFS.Lemmas.Outcome
namespace FFS.Props.C05
open FFS FFS.Model.Secp FFS.Gen.SecpConsts

theorem bigInt64_of_isInt64 {V : Int} (h : isInt64 V = true) : bigInt64 V = V := by
  simp only [isInt64, Bool.and_eq_true, decide_eq_true_eq] at h
  unfold bigInt64 wrap64
  split <;> omega

/-- the guard of `getVNormalized` that the model branches on is present in /repo (regenerated fact): nil V and V
    outside int64 are rejected up front -/
theorem checksInt64 : vChecksInt64 = true := by decide

/-- narrowing to a byte forgets the int64 wrap-around -/
theorem byteOf_wrap64 (x : Int) : byteOf (wrap64 x) = x % 256 := by
  unfold byteOf wrap64; omega

theorem vArm_eq (v cid : Int) :
    vArm v cid = if v = 0 ∨ v = 1 then v + 27 else if v = 27 ∨ v = 28 then v else v - 35 - cid * 2 + 27 := by
  simp [vArm]

theorem getVNormalized_some (V cid : Int) :
    getVNormalized (some V) cid =
      if isInt64 V = true ∧ (vArm V cid % 256 = 27 ∨ vArm V cid % 256 = 28) then .ok (vArm V cid % 256)
      else .err := by
  unfold getVNormalized
  by_cases hi : isInt64 V = true
  · simp only [checksInt64, hi, bigInt64_of_isInt64 hi, byteOf_wrap64, vReject, Bool.not_true, Bool.and_false,
      Bool.false_eq_true, if_false, true_and, Bool.and_eq_true, decide_eq_true_eq]
    by_cases hb : vArm V cid % 256 = 27 ∨ vArm V cid % 256 = 28
    · rw [if_neg (by omega), if_pos hb]
    · rw [if_pos (by omega), if_neg hb]
  · simp [checksInt64, hi]

/-- `getVNormalized` never panics (nil V included). -/
theorem vnorm_total (V : Option Int) (cid : Int) : getVNormalized V cid ≠ .panic := by
  cases V with
  | none => simp [getVNormalized, checksInt64]
  | some V => rw [getVNormalized_some]; split <;> simp

/-- A V that does not fit int64 is rejected, never truncated. -/
theorem vnorm_no_truncation (V : Int) (cid : Int) (h : isInt64 V = false) :
    getVNormalized (some V) cid = .err := by
  rw [getVNormalized_some, if_neg (by simp [h])]

theorem vnorm_accept_char {V cid b : Int} (h : getVNormalized (some V) cid = .ok b) :
    isInt64 V = true ∧ (b = 27 ∨ b = 28) ∧
    ((V = 0 ∨ V = 1) → b = V + 27) ∧ ((V = 27 ∨ V = 28) → b = V) ∧
    (¬ (V = 0 ∨ V = 1 ∨ V = 27 ∨ V = 28) → b = (V - 8 - 2 * cid) % 256) := by
  rw [getVNormalized_some] at h
  split at h
  · rename_i hc
    injection h with h
    subst h
    refine ⟨hc.1, hc.2, fun hv => ?_, fun hv => ?_, fun hv => ?_⟩
    · rw [vArm_eq, if_pos hv]; omega
    · rw [vArm_eq, if_neg (by omega), if_pos hv]; omega
    · rw [vArm_eq, if_neg (by omega), if_neg (by omega), show V - 35 - cid * 2 + 27 = V - 8 - 2 * cid by omega]
  · cases h

theorem vnorm_ok {V cid b : Int} (hi : -(2 ^ 63) ≤ V ∧ V < 2 ^ 63) (hb : vArm V cid % 256 = b)
    (h : b = 27 ∨ b = 28) : getVNormalized (some V) cid = .ok b := by
  rw [getVNormalized_some, hb, if_pos ⟨by simpa [isInt64] using hi, h⟩]

/-- V as 27/28 and V as the parity are accepted whatever the chain id: `vArm` does not look at it there. -/
theorem vnorm_plain (p cid : Int) (hp : p = 0 ∨ p = 1) :
    getVNormalized (some (27 + p)) cid = .ok (27 + p) ∧ getVNormalized (some p) cid = .ok (27 + p) := by
  have hb : 27 + p = 27 ∨ 27 + p = 28 := by omega
  refine ⟨vnorm_ok (by omega) ?_ hb, vnorm_ok (by omega) ?_ hb⟩
  · rw [vArm_eq, if_neg (by omega), if_pos (by omega)]; omega
  · rw [vArm_eq, if_pos hp]; omega

/-- The three accepted conventions, for every chain id in the property's range. -/
theorem vnorm_three_conventions (p cid : Int) (hp : p = 0 ∨ p = 1) (hc : 0 ≤ cid ∧ cid ≤ 2 ^ 53) :
    getVNormalized (some (27 + p)) cid = .ok (27 + p) ∧
    getVNormalized (some p) cid = .ok (27 + p) ∧
    getVNormalized (some (35 + 2 * cid + p)) cid = .ok (27 + p) := by
  refine ⟨(vnorm_plain p cid hp).1, (vnorm_plain p cid hp).2, vnorm_ok (by omega) ?_ (by omega)⟩
  rw [vArm_eq, if_neg (by omega), if_neg (by omega)]; omega

/-- **partial** version of "any other V is rejected": holds when V is within a byte of the EIP-155 base,
    i.e. when the `byte(...)` narrowing cannot wrap. -/
theorem vnorm_rejects_others_partial (V cid : Int)
    (hnot : ¬ (V = 0 ∨ V = 1 ∨ V = 27 ∨ V = 28 ∨ V = 35 + 2 * cid ∨ V = 36 + 2 * cid))
    (hnear : -27 ≤ V - 35 - 2 * cid ∧ V - 35 - 2 * cid < 229) :
    getVNormalized (some V) cid = .err := by
  rw [getVNormalized_some, vArm_eq, if_neg (c := V = 0 ∨ V = 1) (by omega),
    if_neg (c := V = 27 ∨ V = 28) (by omega)]
  exact if_neg (fun h => by omega)

/-- The **full** statement ("any V other than the three conventions is rejected") is FALSE of the code:
    V ≡ 35 + 2·chainId + parity (mod 256) is accepted. Witness V = 35 + 256, chain id 0.
    (Known finding C05-vmod256; the existing test-suite relies on this wrap-around for CompactRSV.) -/
theorem vnorm_full_fails :
    ∃ V cid : Int, ¬ (V = 0 ∨ V = 1 ∨ V = 27 ∨ V = 28 ∨ V = 35 + 2 * cid ∨ V = 36 + 2 * cid) ∧
      getVNormalized (some V) cid = .ok 27 :=
  ⟨291, 0, by decide, by decide⟩

/-- Shape of a signature produced by signing: V ∈ {27,28}, R ∈ [1,n-1], S ∈ [1, n/2] (low-S). -/
theorem sign_shape (C : Curve) (hC : C.Lawful) (k : Nat) (z : Bytes) :
    ∃ v r s : Nat, signDirect C k z = { V := some v, R := some r, S := some s } ∧
      (v = 27 ∨ v = 28) ∧ 1 ≤ r ∧ r < C.n ∧ 1 ≤ s ∧ 2 * s ≤ C.n :=
  ⟨(C.signCompact k z).1, (C.signCompact k z).2.1, (C.signCompact k z).2.2, rfl,
    hC.sign_v k z, (hC.sign_r k z).1, (hC.sign_r k z).2, (hC.sign_s k z).1, (hC.sign_s k z).2⟩

/-- Whatever V' normalises to the V the library produced, recovery returns the key's address. -/
theorem recover_of_vnorm (C : Curve) (hC : C.Lawful) (k : Nat) (hk : 1 ≤ k ∧ k < C.n) (z : Bytes)
    (V' cid : Int)
    (hv : getVNormalized (some V') cid = .ok ((C.signCompact k z).1 : Int)) :
    recoverDirect C { V := some V', R := some ((C.signCompact k z).2.1 : Int),
                      S := some ((C.signCompact k z).2.2 : Int) } z cid = .ok (keyAddress C k) := by
  have hr := hC.sign_r k z
  have hs := hC.sign_s k z
  have hn := hC.n_lt
  have hr256 : (C.signCompact k z).2.1 < 256 ^ 32 := by rw [pow256_32]; omega
  have hs256 : (C.signCompact k z).2.2 < 256 ^ 32 := by rw [pow256_32]; omega
  have hrOK : rsOK (some ((C.signCompact k z).2.1 : Int)) = true := by
    simp only [rsOK, Bool.and_eq_true, decide_eq_true_eq]; omega
  have hsOK : rsOK (some ((C.signCompact k z).2.2 : Int)) = true := by
    simp only [rsOK, Bool.and_eq_true, decide_eq_true_eq]; omega
  simp only [recoverDirect, hv, hrOK, hsOK, Bool.and_self, Bool.not_true, Bool.false_eq_true, if_false,
    Option.getD_some, Int.toNat_natCast, fillBytes?_ok hr256, fillBytes?_ok hs256]
  rw [hC.recover_sign k z hk.1 hk.2]
  rfl

theorem update_forms (v cid : Int) (hv : v = 27 ∨ v = 28) :
    updateEIP155 v cid = 35 + 2 * cid + (v - 27) ∧ updateEIP2930 v = v - 27 := by
  constructor
  · simp only [updateEIP155, eip155Mul, eip155Add]; omega
  · have hi : isInt64 v = true := by simp [isInt64]; omega
    simp only [updateEIP2930, bigInt64_of_isInt64 hi, eip2930Cond, eip2930Sub, Bool.or_eq_true, decide_eq_true_eq]
    rw [if_pos (by omega)]; rfl

/-- Recovery with V as 27/28, as 0/1 and as 35+2·chainId+parity all return exactly the key's address. -/
theorem recover_sign_all_conventions (C : Curve) (hC : C.Lawful) (k : Nat) (hk : 1 ≤ k ∧ k < C.n)
    (z : Bytes) (cid : Int) (hc : 0 ≤ cid ∧ cid ≤ 2 ^ 53) :
    let sig := signDirect C k z
    let v : Int := ((C.signCompact k z).1 : Int)
    recoverDirect C sig z cid = .ok (keyAddress C k) ∧
    recoverDirect C { sig with V := some (updateEIP2930 v) } z cid = .ok (keyAddress C k) ∧
    recoverDirect C { sig with V := some (updateEIP155 v cid) } z cid = .ok (keyAddress C k) := by
  intro sig v
  have hv : v = 27 ∨ v = 28 := by have := hC.sign_v k z; omega
  have h3 := vnorm_three_conventions (v - 27) cid (by omega) hc
  rw [show (27 + (v - 27) : Int) = v by omega] at h3
  rw [(update_forms v cid hv).1, (update_forms v cid hv).2]
  exact ⟨recover_of_vnorm C hC k hk z v cid h3.1, recover_of_vnorm C hC k hk z _ cid h3.2.1,
    recover_of_vnorm C hC k hk z _ cid h3.2.2⟩

/-- All that the transaction layer needs of signing: the signature's components, their sizes, and that it recovers
    to the key's address with V as signed (27/28) and with V as the parity (0/1), whatever chain id is asked for. -/
theorem sign_recovers (C : Curve) (hC : C.Lawful) (k : Nat) (hk : 1 ≤ k ∧ k < C.n) (msg : Bytes) :
    ∃ v r s : Nat, sign C k msg = { V := some v, R := some r, S := some s } ∧ (v = 27 ∨ v = 28) ∧
      r < 2 ^ 256 ∧ s < 2 ^ 256 ∧
      ∀ cid : Int,
        recover C { V := some (v : Int), R := some r, S := some s } msg cid = .ok (keyAddress C k) ∧
        recover C { V := some ((v - 27 : Nat) : Int), R := some r, S := some s } msg cid = .ok (keyAddress C k) := by
  have hv := hC.sign_v k (Prim.keccak256 msg)
  have hr := (hC.sign_r k (Prim.keccak256 msg)).2
  have hs := (hC.sign_s k (Prim.keccak256 msg)).2
  have hn := hC.n_lt
  refine ⟨(C.signCompact k (Prim.keccak256 msg)).1, (C.signCompact k (Prim.keccak256 msg)).2.1,
    (C.signCompact k (Prim.keccak256 msg)).2.2, rfl, hv, by omega, by omega, fun cid => ?_⟩
  have h2 := vnorm_plain (((C.signCompact k (Prim.keccak256 msg)).1 : Int) - 27) cid (by omega)
  rw [show (27 + (((C.signCompact k (Prim.keccak256 msg)).1 : Int) - 27)) = (C.signCompact k (Prim.keccak256 msg)).1 by omega] at h2
  exact ⟨recover_of_vnorm C hC k hk _ _ cid h2.1,
    by rw [Int.natCast_sub (by omega)]; exact recover_of_vnorm C hC k hk _ _ cid h2.2⟩

/-- The hashing entry points are the direct ones applied to keccak256(message) — any message length. -/
theorem recover_sign_message (C : Curve) (hC : C.Lawful) (k : Nat) (hk : 1 ≤ k ∧ k < C.n)
    (msg : Bytes) (cid : Int) (hc : 0 ≤ cid ∧ cid ≤ 2 ^ 53) :
    recover C (sign C k msg) msg cid = .ok (keyAddress C k) :=
  (recover_sign_all_conventions C hC k hk (Prim.keccak256 msg) cid hc).1

/-- `RecoverDirect` does not panic, and what a successful recovery means: V normalised to 27/28, R and S fit 32
    bytes, and the library recovered a public key from exactly those values over exactly that digest; the result is
    its address. -/
theorem recoverDirect_sat (C : Curve) (sig : Sig) (z : Bytes) (cid : Int) :
    (recoverDirect C sig z cid).Sat fun a =>
      ∃ (vB r s : Int) (P : C.Pub), getVNormalized sig.V cid = .ok vB ∧ (vB = 27 ∨ vB = 28) ∧
        sig.R = some r ∧ sig.S = some s ∧ 0 ≤ r ∧ r < 2 ^ 256 ∧ 0 ≤ s ∧ s < 2 ^ 256 ∧
        C.recoverCompact vB.toNat (toBE 32 r.toNat) (toBE 32 s.toNat) z = some P ∧ a = addressOf C P := by
  obtain ⟨V, R, S⟩ := sig
  unfold recoverDirect
  cases hg : getVNormalized V cid with
  | panic => exact absurd hg (vnorm_total _ _)
  | err => exact Outcome.sat_err
  | ok vB =>
    have hvB : vB = 27 ∨ vB = 28 := by
      cases V with
      | none => simp [getVNormalized, checksInt64] at hg
      | some V => exact (vnorm_accept_char hg).2.1
    refine Outcome.sat_ite_err fun hrs => ?_
    simp only [Bool.not_eq_true', Bool.and_eq_false_iff, not_or, Bool.not_eq_false] at hrs
    cases R with
    | none => simp [rsOK] at hrs
    | some r =>
      cases S with
      | none => simp [rsOK] at hrs
      | some s =>
        simp only [rsOK, Bool.and_eq_true, decide_eq_true_eq] at hrs
        have h1 : r.toNat < 256 ^ 32 := by rw [pow256_32]; omega
        have h2 : s.toNat < 256 ^ 32 := by rw [pow256_32]; omega
        simp only [Option.getD_some, fillBytes?_ok h1, fillBytes?_ok h2]
        cases hP : C.recoverCompact vB.toNat (toBE 32 r.toNat) (toBE 32 s.toNat) z with
        | none => exact Outcome.sat_err
        | some P => exact Outcome.sat_ok ⟨vB, r, s, P, rfl, hvB, rfl, rfl, hrs.1.1, hrs.1.2, hrs.2.1, hrs.2.2, hP, rfl⟩

/-- Recovery is total: nil or oversized V/R/S give an error, never a panic. -/
theorem recover_total (C : Curve) (sig : Sig) (z : Bytes) (cid : Int) :
    recoverDirect C sig z cid ≠ .panic := (recoverDirect_sat C sig z cid).1

theorem recoverDirect_ok {C : Curve} {sig : Sig} {z : Bytes} {cid : Int} {a : Bytes}
    (h : recoverDirect C sig z cid = .ok a) :
    ∃ (vB r s : Int) (P : C.Pub), getVNormalized sig.V cid = .ok vB ∧ (vB = 27 ∨ vB = 28) ∧
      sig.R = some r ∧ sig.S = some s ∧ 0 ≤ r ∧ r < 2 ^ 256 ∧ 0 ≤ s ∧ s < 2 ^ 256 ∧
      C.recoverCompact vB.toNat (toBE 32 r.toNat) (toBE 32 s.toNat) z = some P ∧ a = addressOf C P :=
  (recoverDirect_sat C sig z cid).2 a h

/-- The address of a key is the last 20 bytes of keccak256 of its uncompressed public key (X ‖ Y). -/
theorem addr_def (C : Curve) (k : Nat) :
    keyAddress C k = (Prim.keccak256 (C.ser (C.pub k))).drop 12 := rfl

/-- The 65-byte compact form R ‖ S ‖ V round-trips (for byte-sized V, as produced by signing). -/
theorem compact_roundtrip (r s v : Nat) (hr : r < 2 ^ 256) (hs : s < 2 ^ 256) (hv : v < 256) :
    ∃ b, compactRSV { V := some v, R := some r, S := some s } = .ok b ∧ b.length = 65 ∧
      decodeCompactRSV b = .ok { V := some v, R := some r, S := some s } := by
  have hr' : r < 256 ^ 32 := by rw [pow256_32]; exact hr
  have hs' : s < 256 ^ 32 := by rw [pow256_32]; exact hs
  have hb : bigInt64 (v : Int) = v := bigInt64_of_isInt64 (by simp [isInt64]; omega)
  have hbyte : (byteOf (v : Int)).toNat = v := by simp only [byteOf]; omega
  refine ⟨toBE 32 r ++ toBE 32 s ++ [UInt8.ofNat v], ?_, by simp, ?_⟩
  · simp [compactRSV, fillBytes?_ok hr', fillBytes?_ok hs', hb, hbyte]
  · have f1 : fromBE (toBE 32 r) = r := by rw [fromBE_toBE]; exact Nat.mod_eq_of_lt hr'
    have f2 : fromBE (toBE 32 s) = s := by rw [fromBE_toBE]; exact Nat.mod_eq_of_lt hs'
    have f3 : fromBE [UInt8.ofNat v] = v := by
      simp [fromBE, UInt8.toNat_ofNat']; omega
    simp [decodeCompactRSV, List.drop_append, f1, f2, f3,
      show (toBE 32 r).drop 64 = [] from List.drop_eq_nil_of_le (by simp)]

/-- **An address is 20 bytes**: the last 20 of the 32 bytes of Keccak-256. -/
theorem addressOf_length (C : Curve) (p : C.Pub) : (addressOf C p).length = 20 := by
  simp [addressOf, Prim.keccak256_length]
theorem keyAddress_length (C : Curve) (k : Nat) : (keyAddress C k).length = 20 := addressOf_length C _

/-- Non-vacuity: the `Lawful` hypotheses are satisfiable (a one-key toy instance). -/
def toyCurve : Curve :=
  { Pub := Nat, n := 2, pub := id, signCompact := fun _ _ => (27, 1, 1),
    recoverCompact := fun _ _ _ _ => some 1, ser := fun _ => [] }

theorem toyCurve_lawful : toyCurve.Lawful :=
  { sign_v := fun _ _ => Or.inl rfl, sign_r := fun _ _ => ⟨Nat.le_refl 1, Nat.lt_succ_self 1⟩,
    sign_s := fun _ _ => ⟨Nat.le_refl 1, Nat.le_refl 2⟩,
    n_lt := by decide,
    recover_sign := fun k _ h1 h2 => by
      have : k = 1 := by
        have h2' : k < 2 := h2
        omega
      subst this; rfl }

example : ∃ C : Curve, C.Lawful ∧ ∃ k, 1 ≤ k ∧ k < C.n := ⟨toyCurve, toyCurve_lawful, 1, by decide, by decide⟩

end FFS.Props.C05
