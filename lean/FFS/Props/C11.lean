/-
  Property C11 — ABI decoding of arbitrary bytes is total, stable and bounded by the data given.
  Model: FFS.Model.Abi.decode / decodeList / decodeParams (pkg/abi/abidecode.go) for every type tree, every byte
  string and every head position. One invariant, `decode_sat`, is proved by one induction over the type: the decoder
  does not panic (every slice is preceded by its bounds check; no fuel anywhere: the loops are structural in the type
  and in the count read from the data), reports a whole number of words read, starting inside the block (`HeadOK`),
  and returns a value tree of the type (`Shape`). `decode_total`, `decode_heads`, `decode_shape` and their
  `decodeList_…`, `decodeParams_…`, `decodeElem_…` forms are its projections. Beside it:
  * `darr_bounded` : a dynamic array that decodes has at most max(cap, ⌈|block|/32⌉) children — bounded by the data
                     supplied (or by the fixed cap for elements with an empty encoding), never by the count word;
  * `decode_serialisable` : a value tree of a valid type (`shape_serialisable`), hence whatever `decode` returns,
                     is serialised in every formatting mode by every serializer.
  decode∘encode∘decode stability is proved for returned trees that are `WellTyped` (`reencode_stable_partial`); a
  decoded `bool` word other than 0/1 is outside `WellTyped`, and there the correspondence run decides.
-/
import FFS.Model.AbiIO
import FFS.Lemmas.AbiDecode
import FFS.Props.C03
import FFS.Props.C02
namespace FFS.Props.C11
open FFS FFS.Model.Abi FFS.Gen.AbiCodecFacts
open FFS.Outcome (sat_ok sat_err sat_ite_err bind_eq_ok)

/-- the regenerated facts about abidecode.go; the proofs use the first only -/
theorem facts : zeroSizeCountBounded = true ∧ dynArrayNoUpfrontAlloc = true ∧ lengthBoundsChecked = true ∧
    maxEmptyElementCount = 65536 := by decide

/-- what a decode reports as read: a multiple of 32 and, when non-zero, starting inside the block -/
def HeadOK (block : Bytes) (hp r : Nat) : Prop := r % 32 = 0 ∧ (r = 0 ∨ hp < block.length)

theorem HeadOK.zero (block : Bytes) (hp : Nat) : HeadOK block hp 0 := ⟨rfl, .inl rfl⟩

theorem HeadOK.word {block : Bytes} {hp : Nat} (h : hp < block.length) : HeadOK block hp 32 := ⟨rfl, .inr h⟩

theorem HeadOK.add {block : Bytes} {hp r s : Nat} (a : HeadOK block hp r) (b : HeadOK block (hp + r) s) :
    HeadOK block hp (r + s) := by
  unfold HeadOK at *
  omega

theorem decodeLength_sat (block : Bytes) (off : Nat) : (decodeLength block off).Sat fun _ => off + 32 ≤ block.length := by
  unfold decodeLength
  refine sat_ite_err fun _ => ?_
  rw [slice?_ok (by omega) (by omega)]
  exact sat_ite_err fun _ => sat_ok (by omega)

theorem parseInt256_range (w : Bytes) (hl : w.length = 32) : -(2 : Int) ^ 255 ≤ parseInt256 w ∧ parseInt256 w < 2 ^ 255 := by
  have hlt := fromBE_lt w
  rw [hl, pow256_32] at hlt
  have hcast : ((fromBE w : Nat) : Int) < 2 ^ 256 := by exact_mod_cast hlt
  have hp : (2 : Int) ^ 256 = 2 ^ 255 + 2 ^ 255 := by decide
  unfold parseInt256
  dsimp only
  split <;> omega

/-- what an elementary decoder may return: the value kind of its codec, unsigned integers below `2^m`, signed integers
    within 256 bits, fixed-width byte strings of exactly `m` bytes -/
def ElemShape (info : ElemInfo) (m : Nat) (v : CV) : Prop :=
  match codecOf info.dec with
  | .sint => ∃ z : Int, v = .int z ∧ -(2 : Int) ^ 255 ≤ z ∧ z < 2 ^ 255
  | .uint => ∃ z : Int, v = .int z ∧ 0 ≤ z ∧ z < 2 ^ (8 * (m / 8))
  | .bytes => ∃ b, v = .bytes b ∧ (m = 0 ∨ b.length = m)
  | .string => ∃ b, v = .str b ∧ (m = 0 ∨ b.length = m)
  | .float => False

theorem readBytes_sat (m : Nat) (block : Bytes) (hs hp : Nat) :
    (readBytes m block hs hp).Sat fun b => hp < block.length ∧ (m = 0 ∨ b.length = m) := by
  unfold readBytes
  split
  · refine (decodeLength_sat block hp).bind fun off _ ho => (decodeLength_sat block (hs + off)).bind fun n _ _ => ?_
    exact sat_ite_err fun _ => sat_ok ⟨by omega, .inl ‹_›⟩
  · exact sat_ite_err fun _ => sat_ok ⟨by omega, .inr (by rw [List.length_take, List.length_drop]; omega)⟩

theorem decodeElem_sat (info : ElemInfo) (m : Nat) (block : Bytes) (hs hp : Nat) :
    (decodeElem info m block hs hp).Sat fun v => hp < block.length ∧ ElemShape info m v := by
  rw [decodeElem_eq]
  unfold ElemShape
  cases codecOf info.dec <;> dsimp only
  case sint =>
    exact sat_ite_err fun _ => (slice?_sat (by omega) (by omega)).bind fun w _ hw =>
      sat_ok ⟨by omega, _, rfl, parseInt256_range w (by omega)⟩
  case uint =>
    refine sat_ite_err fun _ => (slice?_sat (by omega) (by omega)).bind fun w _ hw =>
      sat_ok ⟨by omega, _, rfl, Int.natCast_nonneg _, ?_⟩
    -- at most `m / 8` bytes are read
    have := Nat.lt_of_lt_of_le (fromBE_lt w) (Nat.pow_le_pow_right (by decide) (by omega : w.length ≤ m / 8))
    rw [pow256] at this
    exact_mod_cast this
  case float => exact sat_err
  case bytes | string => exact (readBytes_sat m block hs hp).bind fun b _ hb => sat_ok ⟨hb.1, b, rfl, hb.2⟩

mutual
  def Shape : Ty → CV → Prop
    | .elem info _ m _, v => ElemShape info m v
    | .farr t k, v => ∃ cs, v = .kids cs ∧ cs.length = k ∧ ∀ c ∈ cs, Shape t c
    | .darr t, v => ∃ cs, v = .kids cs ∧ ∀ c ∈ cs, Shape t c
    | .tuple _ ts, v => ∃ cs, v = .kids cs ∧ ShapeEach ts cs
  def ShapeEach : List Ty → List CV → Prop
    | [], [] => True
    | t :: ts, c :: cs => Shape t c ∧ ShapeEach ts cs
    | _, _ => False
end

theorem decodeRepeat_length (dec : Nat → Nat → Outcome (Nat × CV)) :
    ∀ (n hs hp r : Nat) (cs : List CV), decodeRepeat dec n hs hp = .ok (r, cs) → cs.length = n := by
  intro n
  induction n with
  | zero => intro hs hp r cs h; cases h; rfl
  | succ n ih =>
    intro hs hp r cs h
    simp only [decodeRepeat_succ, bind_eq_ok, Outcome.ok.injEq, Prod.mk.injEq] at h
    obtain ⟨p, _, q, hq, _, rfl⟩ := h
    simp [ih _ _ _ _ hq]

theorem decodeRepeat_sat (block : Bytes) (Q : CV → Prop) (dec : Nat → Nat → Outcome (Nat × CV))
    (hd : ∀ a b, (dec a b).Sat fun p => HeadOK block b p.1 ∧ Q p.2) :
    ∀ (n hs hp : Nat), (decodeRepeat dec n hs hp).Sat fun p => HeadOK block hp p.1 ∧ ∀ c ∈ p.2, Q c := by
  intro n
  induction n with
  | zero => intro hs hp; exact sat_ok ⟨.zero _ _, by simp⟩
  | succ n ih =>
    intro hs hp
    rw [decodeRepeat_succ]
    exact (hd hs hp).bind fun p _ hp' => (ih hs (hp + p.1)).bind fun q _ hq =>
      sat_ok ⟨hp'.1.add hq.1, by simpa using ⟨hp'.2, hq.2⟩⟩

theorem decodeRepeatDyn_sat (block : Bytes) (Q : CV → Prop) (dec : Nat → Nat → Outcome (Nat × CV)) (over : Bool)
    (hd : ∀ a b, (dec a b).Sat fun p => HeadOK block b p.1 ∧ Q p.2) (n hs hp : Nat) :
    (decodeRepeatDyn dec over n hs hp).Sat fun p => HeadOK block hp p.1 ∧ ∀ c ∈ p.2, Q c := by
  rw [decodeRepeatDyn_eq]
  refine decodeRepeat_sat block Q _ (fun a b => (hd a b).bind fun p _ hp' => ?_) n hs hp
  exact sat_ite_err fun _ => sat_ok hp'

mutual
  theorem decode_sat : ∀ (t : Ty) (block : Bytes) (hs hp : Nat),
      (decode t block hs hp).Sat fun p => HeadOK block hp p.1 ∧ Shape t p.2
    | .elem info sfx m n, block, hs, hp => by
      rw [decode_elem]
      exact (decodeElem_sat info m block hs hp).bind fun v _ hv => sat_ok ⟨.word hv.1, hv.2⟩
    | .farr t k, block, hs, hp => by
      have hch := decodeRepeat_sat block (Shape t) _ (decode_sat t block) k
      rw [decode_farr]
      split
      · exact (decodeLength_sat block hp).bind fun off _ ho => (hch _ _).bind fun p hp' hq =>
          sat_ok ⟨.word (by omega), _, rfl, decodeRepeat_length _ _ _ _ _ _ hp', hq.2⟩
      · exact (hch _ _).bind fun p hp' hq => sat_ok ⟨hq.1, _, rfl, decodeRepeat_length _ _ _ _ _ _ hp', hq.2⟩
    | .darr t, block, hs, hp => by
      rw [decode_darr]
      exact (decodeLength_sat block hp).bind fun off _ ho => (decodeLength_sat block _).bind fun count _ _ =>
        (decodeRepeatDyn_sat block (Shape t) _ _ (decode_sat t block) _ _ _).bind fun p _ hq =>
          sat_ok ⟨.word (by omega), _, rfl, hq.2⟩
    | .tuple ns ts, block, hs, hp => by
      rw [decode_tuple]
      split
      · exact (decodeLength_sat block hp).bind fun off _ ho => (decodeList_sat ts block _ _).bind fun p _ hq =>
          sat_ok ⟨.word (by omega), _, rfl, hq.2⟩
      · exact (decodeList_sat ts block hs hp).bind fun p _ hq => sat_ok ⟨hq.1, _, rfl, hq.2⟩
  theorem decodeList_sat : ∀ (ts : List Ty) (block : Bytes) (hs hp : Nat),
      (decodeList ts block hs hp).Sat fun p => HeadOK block hp p.1 ∧ ShapeEach ts p.2
    | [], block, hs, hp => by rw [decodeList]; exact sat_ok ⟨.zero _ _, trivial⟩
    | t :: ts, block, hs, hp => by
      rw [decodeList_cons]
      exact (decode_sat t block hs hp).bind fun p _ hp' => (decodeList_sat ts block hs _).bind fun q _ hq =>
        sat_ok ⟨hp'.1.add hq.1, hp'.2, hq.2⟩
end

theorem decode_total : ∀ (t : Ty) (block : Bytes) (hs hp : Nat), decode t block hs hp ≠ .panic :=
  fun t block hs hp => (decode_sat t block hs hp).1

theorem decodeParams_sat (ts : List Ty) (block : Bytes) (offset : Nat) :
    (decodeParams ts block offset).Sat fun v => ∃ cs, v = .kids cs ∧ ShapeEach ts cs := by
  rw [decodeParams_eq]
  exact (decodeList_sat ts block offset offset).bind fun p _ hp => sat_ok ⟨_, rfl, hp.2⟩

theorem decodeParams_total (ts : List Ty) (block : Bytes) (offset : Nat) : decodeParams ts block offset ≠ .panic :=
  (decodeParams_sat ts block offset).1

theorem decode_heads : ∀ (t : Ty) (block : Bytes) (hs hp r : Nat) (v : CV), decode t block hs hp = .ok (r, v) → HeadOK block hp r :=
  fun t block hs hp _ _ h => ((decode_sat t block hs hp).2 _ h).1

theorem decodeList_heads : ∀ (ts : List Ty) (block : Bytes) (hs hp r : Nat) (cs : List CV),
      decodeList ts block hs hp = .ok (r, cs) → HeadOK block hp r :=
  fun ts block hs hp _ _ h => ((decodeList_sat ts block hs hp).2 _ h).1

/-- **A returned tree is a value tree of the definition's type**: whatever `decode` returns, from any bytes, has the
    shape of the type — fixed arrays have exactly `k` members, tuples one member per component, unsigned integers lie
    below `2^m`, signed integers within 256 bits, `bytes<M>` values have exactly `M` bytes. -/
theorem decode_shape : ∀ (t : Ty) (block : Bytes) (hs hp r : Nat) (v : CV),
      decode t block hs hp = .ok (r, v) → Shape t v :=
  fun t block hs hp _ _ h => ((decode_sat t block hs hp).2 _ h).2

theorem decodeElem_shape (info : ElemInfo) (m : Nat) (block : Bytes) (hs hp : Nat) (v : CV)
    (h : decodeElem info m block hs hp = .ok v) : ElemShape info m v :=
  ((decodeElem_sat info m block hs hp).2 v h).2

theorem decodeParams_shape (ts : List Ty) (block : Bytes) (offset : Nat) (v : CV)
    (h : decodeParams ts block offset = .ok v) : ∃ cs, v = .kids cs ∧ ShapeEach ts cs :=
  (decodeParams_sat ts block offset).2 v h

theorem decodeRepeat_span (block : Bytes) (dec : Nat → Nat → Outcome (Nat × CV))
    (hd : ∀ a b p, dec a b = .ok p → 32 ≤ p.1 ∧ b < block.length) :
    ∀ (n hs hp : Nat) (p : Nat × List CV), decodeRepeat dec n hs hp = .ok p →
      n = 0 ∨ hp + 32 * (n - 1) < block.length := by
  intro n
  induction n with
  | zero => intros; exact .inl rfl
  | succ n ih =>
    intro hs hp p h
    simp only [decodeRepeat_succ, bind_eq_ok] at h
    obtain ⟨p0, h0, q, hq, _⟩ := h
    have := hd _ _ _ h0
    refine .inr ?_
    rcases ih _ _ _ hq with rfl | h <;> omega

/-- **Bounded by the data given.** A dynamic array that decodes has exactly as many children as its count word says,
    and that count is at most the fixed cap, or else the children's heads — 32 bytes apart at least — all start
    inside the block: the size of ONE array node is bounded by the amount of data (and the cap), never by the magnitude
    of a count word alone. (Offsets may alias, so nothing like it holds of the whole tree.) -/
theorem darr_bounded (t : Ty) (block : Bytes) (hs hp r : Nat) (cs : List CV)
    (h : decode (.darr t) block hs hp = .ok (r, .kids cs)) :
    cs.length ≤ maxEmptyElementCount ∨ 32 * (cs.length - 1) < block.length := by
  simp only [decode_darr, decodeRepeatDyn_eq, bind_eq_ok, Outcome.ok.injEq, Prod.mk.injEq, CV.kids.injEq] at h
  obtain ⟨off, _, count, _, p, hrep, _, rfl⟩ := h
  rw [decodeRepeat_length _ _ _ _ _ _ hrep]
  by_cases hc : count > maxEmptyElementCount
  · -- over the cap a child that read nothing is refused, so every child read a word inside the block
    have := decodeRepeat_span block _ (fun a b p h => ?_) _ _ _ _ hrep
    · exact .inr (by omega)
    · simp only [bind_eq_ok, facts.1, hc, decide_true, Bool.true_and, beq_iff_eq] at h
      obtain ⟨q, hq, h⟩ := h
      have hh := decode_heads t block a b _ _ hq
      unfold HeadOK at hh
      split at h <;> cases h
      omega
  · exact .inl (by omega)

/-- the row that needs an argument is `address`: a value below `2^160` fills the 20 bytes the serializer asks for -/
theorem elemShape_serialisable (cfg : SerCfg) (info : ElemInfo) (sfx : String) (m : Nat) (hok : C03.ElemOK info sfx m)
    (v : CV) (h : ElemShape info m v) : ∃ j, serElem cfg info v = .ok j := by
  unfold ElemShape at h
  unfold serElem
  rcases hok with ⟨hn, hc, _⟩ | ⟨hn, hc, _⟩ | ⟨hn, hc, _, rfl⟩ | ⟨hn, hc, _⟩ | ⟨hn, hc, _⟩ | ⟨hn, hc, _⟩ | ⟨hn, hc, _⟩ <;>
    rw [hc] at h <;> obtain ⟨x, rfl, hx⟩ := h
  · simp [hn]
  · simp [hn]
  · have hfill := fillBytes?_ok (v := x.natAbs) (w := 20) (by have : x < 256 ^ 20 := hx.2; omega)
    cases cfg.addr <;> simp [hn, hfill]
  · simp [hn]
  · simp [hn]
  · simp [hn]
  · simp [hn]

theorem decodeElem_serialisable (cfg : SerCfg) (info : ElemInfo) (sfx : String) (m : Nat) (hok : C03.ElemOK info sfx m)
    (block : Bytes) (hs hp : Nat) (v : CV) (h : decodeElem info m block hs hp = .ok v) :
    ∃ j, serElem cfg info v = .ok j :=
  elemShape_serialisable cfg info sfx m hok v (decodeElem_shape info m block hs hp v h)

mutual
  /-- types whose leaves are table rows (with the decoder the table assigns) and whose tuples name every child -/
  def TyS : Ty → Prop
    | .elem info sfx m _ => C03.ElemOK info sfx m
    | .farr t _ => TyS t
    | .darr t => TyS t
    | .tuple names ts => names.length = ts.length ∧ TySs ts
  def TySs : List Ty → Prop
    | [] => True
    | t :: ts => TyS t ∧ TySs ts
end

theorem outSame_ok (cfg : SerCfg) (t : Ty) : ∀ (cs : List CV), (∀ c ∈ cs, ∃ j, walkOutput cfg t c = .ok j) →
    ∃ js, outSame cfg t cs = .ok js
  | [], _ => ⟨[], by rw [outSame]⟩
  | c :: cs, h => by
    obtain ⟨j, hj⟩ := h c (by simp)
    obtain ⟨js, hjs⟩ := outSame_ok cfg t cs (fun x hx => h x (by simp [hx]))
    exact ⟨j :: js, by rw [outSame, hj]; simp only []; rw [hjs]; rfl⟩

mutual
  theorem shape_serialisable (cfg : SerCfg) : ∀ (t : Ty) (v : CV), TyS t → Shape t v → ∃ j, walkOutput cfg t v = .ok j
    | .elem info sfx m n, v, ht, h => by
      rw [walkOutput]
      exact elemShape_serialisable cfg info sfx m ht v h
    | .farr t k, v, ht, h => by
      obtain ⟨cs, rfl, _, hcs⟩ := h
      obtain ⟨js, hjs⟩ := outSame_ok cfg t cs fun c hc => shape_serialisable cfg t c ht (hcs c hc)
      exact ⟨.arr js, by rw [walkOutput, hjs]; rfl⟩
    | .darr t, v, ht, h => by
      obtain ⟨cs, rfl, hcs⟩ := h
      obtain ⟨js, hjs⟩ := outSame_ok cfg t cs fun c hc => shape_serialisable cfg t c ht (hcs c hc)
      exact ⟨.arr js, by rw [walkOutput, hjs]; rfl⟩
    | .tuple names ts, v, ht, h => by
      obtain ⟨cs, rfl, hcs⟩ := h
      obtain ⟨kvs, hk⟩ := shapeEach_serialisable cfg ts names cs 0 ht.2 hcs
      rw [walkOutput]
      cases cfg.mode <;> simp only [] <;> rw [hk] <;> exact ⟨_, rfl⟩
  theorem shapeEach_serialisable (cfg : SerCfg) : ∀ (ts : List Ty) (names : List String) (cs : List CV) (i : Nat),
      TySs ts → ShapeEach ts cs → ∃ kvs, outEach cfg names ts cs i = .ok kvs
    | [], names, cs, i, _, _ => ⟨[], by cases names <;> simp [outEach]⟩
    | t :: ts, [], cs, i, _, _ => ⟨[], by simp [outEach]⟩
    | t :: ts, nm :: names, [], i, _, h => h.elim
    | t :: ts, nm :: names, c :: cs, i, ht, h => by
      obtain ⟨j, hj⟩ := shape_serialisable cfg t c ht.1 h.1
      obtain ⟨kvs, hk⟩ := shapeEach_serialisable cfg ts names cs (i + 1) ht.2 h.2
      exact ⟨_, by rw [outEach, hj]; simp only []; rw [hk]; rfl⟩
end

/-- **A returned tree can always be serialised to JSON**: whatever `decode` returns for a valid type, from any bytes,
    `walkOutput` turns into an output tree in every formatting mode with every serializer (no error, no panic). -/
theorem decode_serialisable (cfg : SerCfg) : ∀ (t : Ty) (block : Bytes) (hs hp r : Nat) (v : CV), TyS t →
      decode t block hs hp = .ok (r, v) → ∃ j, walkOutput cfg t v = .ok j :=
  fun t block hs hp r v ht h => shape_serialisable cfg t v ht (decode_shape t block hs hp r v h)

theorem decodeList_serialisable (cfg : SerCfg) : ∀ (ts : List Ty) (names : List String) (block : Bytes) (hs hp r : Nat)
      (cs : List CV) (i : Nat), names.length = ts.length → TySs ts → decodeList ts block hs hp = .ok (r, cs) →
      ∃ kvs, outEach cfg names ts cs i = .ok kvs :=
  fun ts names block hs hp _ cs i _ ht h =>
    shapeEach_serialisable cfg ts names cs i ht ((decodeList_sat ts block hs hp).2 _ h).2

/-- **PARTIAL — "if a returned tree can be re-encoded then decoding that encoding yields the same tree".**
    Full statement (over the model): `decodeParams ts block off = .ok v → encode (.tuple ns ts) v = .ok (e, d) →
    decodeParams ts e 0 = .ok v`. Proved here under the extra hypothesis that the returned tree is a value of the type in
    the specification's sense (`wellTypedEach`: every `bool` word is 0 or 1, every `int<M>` lies within `M` bits) and of
    addressable size (`Small`): its re-encoding is then the specification encoding (that step is C02 `encode_eq_spec`,
    stated over C02's own copies of `ValidTy` / `Small`), and decoding the specification encoding returns the same tree
    (C03 `decodeParams_enc`). What is missing: trees the decoder returns that lie outside `WellTyped` — a `bool` decoded
    from a word other than 0/1 and an `int<M>` whose word is not sign-extended are returned as the integer the word holds
    (`decode_shape` bounds them by 2^8 / 256 bits only) — for these the statement is decided by the correspondence run
    (`abi.stable` cases), not proved. `_hdec` is not used: inside `WellTyped` it does not matter where the tree
    came from. -/
theorem reencode_stable_partial (ns : List String) (ts : List Ty) (cs : List CV) (block : Bytes) (off : Nat)
    (hv : FFS.Props.C03.ValidTys ts) (_hdec : decodeParams ts block off = .ok (.kids cs))
    (hw : Spec.Abi.wellTypedEach ts cs = true) (hs : FFS.Props.C03.Small (.tuple ns ts) (.kids cs)) :
    decodeParams ts (Spec.Abi.enc (.tuple ns ts) (.kids cs)) 0 = .ok (.kids cs) := by
  have := FFS.Props.C03.decodeParams_enc ns ts cs [] [] hv hw hs
  simpa using this

/-- … and composed with C02: under both properties' validity / size side conditions (C02's are about the table's
    encoders and 2^256-byte layouts, C03's about its decoders and the 2^32-byte layouts the decoder accepts) the
    returned tree **is** re-encoded by the model's encoder, and decoding that encoding returns the same tree. -/
theorem reencode_decode_partial (ns : List String) (ts : List Ty) (cs : List CV) (block : Bytes) (off : Nat)
    (hv2 : FFS.Props.C02.ValidTys ts) (hv3 : FFS.Props.C03.ValidTys ts)
    (hdec : decodeParams ts block off = .ok (.kids cs)) (hw : Spec.Abi.wellTypedEach ts cs = true)
    (hs2 : FFS.Props.C02.Small (.tuple ns ts) (.kids cs)) (hs3 : FFS.Props.C03.Small (.tuple ns ts) (.kids cs)) :
    ∃ e, encode (.tuple ns ts) (.kids cs) = .ok (e, Spec.Abi.isDynamic (.tuple ns ts)) ∧
      decodeParams ts e 0 = .ok (.kids cs) := by
  exact ⟨_, FFS.Props.C02.encode_eq_spec _ (.tuple ns ts) hv2 hw hs2, reencode_stable_partial ns ts cs block off hv3 hdec hw hs3⟩

def okB {α : Type} : Outcome α → Bool | .ok _ => true | _ => false
/-- non-vacuity: a well-formed `uint256[]` block decodes to a two-element array; a block claiming 2^200 elements is an error -/
example : (match parseParam (.mk "a" "uint256[]" false "" []) with
    | .ok t => okB (decode t (toBE 32 32 ++ toBE 32 2 ++ toBE 32 7 ++ toBE 32 8) 0 0) &&
               !okB (decode t (toBE 32 32 ++ toBE 32 (2 ^ 200) ++ toBE 32 7) 0 0)
    | _ => false) = true := by decide +kernel

end FFS.Props.C11
