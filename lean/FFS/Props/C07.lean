/-
  Property C07 — Keystore V3 files round-trip keys, reject wrong passwords, detect tampering.
  Model: FFS.Model.Keystore (newScryptWalletFileBytes with the random salt and IV as inputs; ReadWalletFile).
  Primitives (scrypt, PBKDF2-HMAC-SHA256, Keccak-256, AES-128 block) are executable Lean references validated
  against the Go libraries by the correspondence run; the theorems use only that CTR mode is data ⊕ keystream
  (`Prim.aes128Ctr_involutive`) and that scrypt returns the requested number of bytes (`Prim.scrypt_length`).
  * `accept_iff_mac_partial`: on a well-formed scrypt file the reader returns a key exactly when the MAC recomputed
                              from the password-derived key matches the stored MAC — so a different password or a
                              changed ciphertext / MAC / salt / cost parameter is accepted only on a Keccak-256
                              collision of the MAC input. PARTIAL: "returns an error for ANY other password" is a
                              cryptographic claim (collision resistance), not a theorem.
  * `fresh_randomness`      : salt and IV come from crypto/rand for every new file (regenerated fact).
-/
import FFS.Model.Keystore
import FFS.Spec.KeystoreV3
import FFS.Props.C15
namespace FFS.Props.C07
open FFS FFS.Model.Keystore FFS.Gen.KeystoreConsts

theorem fresh_randomness : freshSaltIV = true ∧ defaultR = 8 := by decide

/-- cost parameters `scrypt.Key` admits (r is the package's constant 8) -/
def CostOK (n p : Nat) : Prop :=
  1 < n ∧ isPow2 n = true ∧ 0 < p ∧ 8 * p < 2 ^ 30 ∧ (n : Int) ≤ maxInt / 128 / 8

theorem scryptKey_of_cost (pw salt : Bytes) (n p : Nat) (h : CostOK n p) :
    scryptKey pw salt n defaultR p 32 = .ok (Prim.scrypt pw salt n 8 p 32) := by
  obtain ⟨h1, h2, h3, h4, h5⟩ := h
  -- `omega` does not divide by `maxInt`'s factors: the two quotients the library's bounds use, as numerals
  have e128 : maxInt / 128 = 72057594037927935 := by decide
  have e256 : maxInt / 256 = 36028797018963967 := by decide
  have hm : (8 : Int) ≤ maxInt / 128 / p := (Int.le_ediv_iff_mul_le (by omega)).mpr (by omega)
  rw [C15.scryptKey_ok_iff, fresh_randomness.2]
  exact ⟨by simp [h2]; omega, by omega, by omega, by omega, by decide, rfl⟩

theorem read_scrypt (f : KsFile) (pw dk : Bytes)
    (hwf : f.commonErr = false ∧ f.idNil = false ∧ f.kdfErr = false ∧ f.version = 3 ∧ f.kdf = "scrypt" ∧ f.dklen = 32)
    (hdk : scryptKey pw f.salt f.n f.r f.p 32 = .ok dk) : readWalletFile f pw = decryptCommon f dk := by
  obtain ⟨h1, h2, h3, h4, h5, h6⟩ := hwf
  obtain ⟨_, _, _, _, _, _⟩ := (C15.scryptKey_ok_iff ..).mp hdk
  have hrp : ¬ (f.r ≤ 0 ∨ f.p ≤ 0) := by omega
  simp [C15.readWalletFile_eq, C15.decryptScrypt_eq, h1, h2, h3, h4, h5, h6, hrp, hdk]

/-- **Create, then read with the same password: the same key.** -/
theorem create_read_roundtrip (pw key salt iv : Bytes) (n p : Nat) (hiv : iv.length = 16) (hc : CostOK n p) :
    readWalletFile (newScryptFile pw key salt iv n p) pw = .ok key := by
  rw [read_scrypt _ pw _ (by simp [newScryptFile, C15.facts]) (scryptKey_of_cost pw salt n p hc), C15.decryptCommon_ok_iff]
  exact ⟨Prim.scrypt_length .., hiv, rfl, by simp [newScryptFile, newScryptWallet, fresh_randomness.2, Prim.aes128Ctr_involutive]⟩

/-- **The created file is a standard V3 document**: the independent reader decrypts it to the same key. -/
theorem created_is_standard (pw key salt iv : Bytes) (n p : Nat) (hiv : iv.length = 16) (hc : CostOK n p) :
    Spec.KeystoreV3.v3Read (newScryptFile pw key salt iv n p) pw = some key :=
  C15.read_sound_partial _ pw key (by simp [newScryptFile, C15.facts]) (create_read_roundtrip pw key salt iv n p hiv hc)

/-- **Acceptance is exactly MAC agreement** on a well-formed scrypt file (whatever the password). -/
theorem accept_iff_mac_partial (f : KsFile) (pw : Bytes)
    (hwf : f.commonErr = false ∧ f.idNil = false ∧ f.kdfErr = false ∧ f.version = 3 ∧ f.kdf = "scrypt" ∧ f.dklen = 32 ∧
      f.iv.length = 16)
    (dk : Bytes) (hdk : scryptKey pw f.salt f.n f.r f.p 32 = .ok dk) :
    (∃ k, readWalletFile f pw = .ok k) ↔ Prim.keccak256 ((dk.drop 16).take 16 ++ f.ciphertext) = f.mac := by
  obtain ⟨h1, h2, h3, h4, h5, h6, h7⟩ := hwf
  have hlen : dk.length = 32 := by
    rw [← ((C15.scryptKey_ok_iff ..).mp hdk).2.2.2.2.2]; exact Prim.scrypt_length ..
  simp only [read_scrypt f pw dk ⟨h1, h2, h3, h4, h5, h6⟩ hdk, C15.decryptCommon_ok_iff, hlen, h7, true_and]
  exact ⟨fun ⟨_, h, _⟩ => h, fun h => ⟨_, h, rfl⟩⟩

/-- non-vacuity: the package's own cost parameters are admissible -/
example : CostOK nLight pDefault ∧ CostOK nStandard pDefault := by
  unfold CostOK
  decide

/-- non-vacuity of every `readWalletFile f pw = .ok k` hypothesis (C07 and C15: `read_ok_shape`, `read_needs_mac`,
    `read_sound_partial`, `cipher_unchecked_witness`): created files are read back, so such `f`, `pw`, `k` exist -/
example : ∃ f pw k, readWalletFile f pw = .ok k :=
  ⟨_, [1, 2], [9, 9], create_read_roundtrip [1, 2] [9, 9] [3] (List.replicate 16 0) nLight pDefault (by simp)
    (by unfold CostOK; decide)⟩

end FFS.Props.C07
