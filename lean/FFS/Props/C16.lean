/-
  Property C16 — the proxy survives and answers every request body with well-formed JSON-RPC.
  Model: FFS.Model.Proxy.handle (internal/rpcserver/rpchandler.go, rpcprocessor.go; rpcbackend.SyncRequest),
  for every body, every JSON tree, every backend script and every wallet.
  The model is a pure function of the request, so "any sequence of requests against one process" is the
  statement for every single request plus the absence of the `processCrash` outcome (`history_survives`).
  Well-formed is `WF`, on the model's response objects; the JSON text of a reply (`Spec.JsonRpc.wellFormedReply`) is
  judged on the running proxy by the harness, not here.
-/
import FFS.Lemmas.Proxy
import FFS.Spec.JsonRpc
namespace FFS.Props.C16
open Lean FFS FFS.Model.Proxy FFS.Gen.ProxyFacts

/-- The regenerated facts: every guard the robustness argument needs is present in the source. -/
theorem facts :
    nilMemberGuard = true ∧ badFromIsError = true ∧ sniffUnbounded = true ∧ httpErrorBuildsError = true ∧
    versionForced = true ∧ nilResultGuard = true ∧ idRestored = true := by decide

/-- **Regenerated tie for "every reply is JSON".** `processRPC` builds no JSON by string formatting: its error replies are
    `RPCErrorResponse` values carrying the request's own id (or the fixed id 1), which `encoding/json` can always
    marshal — the model's replies are trees, so they are JSON by construction; this fact keeps the code in that shape. -/
theorem replies_not_hand_built : noHandBuiltJsonInErrors = true := by decide

/-- A response object as JSON-RPC 2.0 requires it: version 2.0 and exactly one of result / error. -/
def WF (r : Resp) : Prop :=
  r.version = "2.0" ∧ ((r.result.isSome = true ∧ r.errorCode = none) ∨ (r.result = none ∧ r.errorCode.isSome = true))

theorem errResp_wf (id : Json) (c : Int) : WF (errResp id c) := by
  simp [WF, errResp]

theorem built_wf {id : Json} {r : Resp} (h : Built id r) : WF r := by
  cases h with
  | err c => exact errResp_wf _ _
  | ok j => exact ⟨rfl, .inl ⟨rfl, rfl⟩⟩

theorem processRPC_wf (mem : Members) (w : Wallet) (script : Script) (req : Option Req) :
    WF (processRPC mem w script req).2.1 :=
  built_wf (processRPC_built mem w script req)

/-- the reply of the handler, as the list of response objects it carries; `none` = the process died -/
def responses : HttpReply → Option (List Resp)
  | .single _ r => some [r]
  | .batch _ rs => some rs
  | .processCrash => none

theorem mapM_some_length {α β : Type} (f : α → Option β) :
    ∀ (l : List α) (r : List β), l.mapM f = some r → r.length = l.length
  | [], _, h => by cases h; rfl
  | a :: t, r, h => by
    simp only [List.mapM_cons, Option.bind_eq_bind, Option.pure_def, Option.bind_eq_some_iff, Option.some.injEq] at h
    obtain ⟨b, -, bs, hbs, rfl⟩ := h
    simp [mapM_some_length f t bs hbs]

theorem single_ok (st : Nat) {r : Resp} (h : WF r) :
    ∃ rs, responses (.single st r) = some rs ∧ rs ≠ [] ∧ ∀ r ∈ rs, WF r :=
  ⟨_, rfl, nofun, by simpa using h⟩

theorem batchReply_ok (mem : Members) (w : Wallet) (script : Script) (ms : List (Option Req)) (hne : ms ≠ []) :
    ∃ rs, responses (batchReply mem w script ms).2 = some rs ∧ rs ≠ [] ∧ ∀ r ∈ rs, WF r := by
  refine ⟨_, rfl, by simpa using hne, ?_⟩
  simp only [List.forall_mem_map]
  exact fun m _ => processRPC_wf mem w script m

/-- **Well-formed replies.** For every body, JSON tree, backend behaviour and wallet the handler answers
    (it does not die), with at least one response object, each of them `WF`. -/
theorem handle_wf (mem : Members) (w : Wallet) (script : Script) (body : Bytes) (parsed : Option Json) :
    ∃ rs, responses (handle mem w script body parsed).2 = some rs ∧ rs ≠ [] ∧ ∀ r ∈ rs, WF r := by
  have perr := single_ok 400 (errResp_wf (Json.num (JsonNumber.fromNat 1)) RPCCodeInvalidRequest)
  unfold handle
  split
  · unfold handleBatch
    split
    · split
      · exact perr
      · exact perr
      next ms hne _ => exact batchReply_ok mem w script ms fun h => hne (h ▸ rfl)
    · exact perr
  · unfold handleSingle
    split
    · exact perr
    · split
      · exact perr
      · exact single_ok _ (processRPC_wf _ _ _ _)

/-- **The process survives.** No body, JSON tree, backend behaviour or wallet makes the handler crash. -/
theorem handle_survives (mem : Members) (w : Wallet) (script : Script) (body : Bytes) (parsed : Option Json) :
    (handle mem w script body parsed).2 ≠ .processCrash := by
  obtain ⟨rs, h, _⟩ := handle_wf mem w script body parsed
  intro hc
  rw [hc] at h
  cases h

/-- **Any history.** Every request of any sequence against the (stateless) handler is answered. -/
theorem history_survives (mem : Members) (w : Wallet) (script : Script) (reqs : List (Bytes × Option Json)) :
    ∀ rq ∈ reqs, (handle mem w script rq.1 rq.2).2 ≠ .processCrash :=
  fun rq _ => handle_survives mem w script rq.1 rq.2

/-- **Batch length.** A body that starts with `[` and whose members, at least one, all decode (objects, or nulls) is
    answered by an array with one response per member (`[]` gets the parse-error reply, as in `handleRPCBatch`). -/
theorem batch_length (mem : Members) (w : Wallet) (script : Script) (body : Bytes) (xs : Array Json)
    (ms : List (Option Req)) (hb : sniffFirstByte body = 0x5b) (hd : xs.toList.mapM (decodeMember mem) = some ms)
    (hne : ms ≠ []) :
    ∃ st rs, (handle mem w script body (some (.arr xs))).2 = .batch st rs ∧ rs.length = xs.size := by
  unfold handle handleBatch
  simp only [hb, beq_self_eq_true, if_true, hd]
  cases ms with
  | nil => exact absurd rfl hne
  | cons a t => exact ⟨_, _, rfl, by simpa using mapM_some_length _ _ _ hd⟩

/-- **Unprocessable requests get an error object**: a null batch member and a request without id. -/
theorem null_member_is_error (mem : Members) (w : Wallet) (script : Script) :
    (processRPC mem w script none).2.1.errorCode.isSome = true := by
  simp [processRPC, nilMemberGuard, errResp]

theorem missing_id_is_error (mem : Members) (w : Wallet) (script : Script) (r : Req) (h : r.id = none) :
    (processRPC mem w script (some r)).2.1.errorCode.isSome = true := by
  simp [processRPC, h, errResp]

/-- bad parameters / malformed `from` of eth_sendTransaction are answered with an error object -/
theorem bad_params_is_error (mem : Members) (w : Wallet) (script : Script) (id : Json) (params : List Json)
    (h : params = [] ∨ ∃ p0 t, params = p0 :: t ∧ (decodeTx p0 (mem p0) = none ∨
      ∃ f n, decodeTx p0 (mem p0) = some (some f, n) ∧ addrOfJson f = none)) :
    (sendTransaction mem w script id params).2.1.errorCode.isSome = true := by
  match sendTransaction mem w script id params, sendTransaction_out mem w script id params with
  | _, .refused c _ => rfl
  | _, .submitted hpar hd _ _ ha _ _ =>
    -- a submission needs a first parameter that decodes with a `from` that is an address: `h` denies one of the three
    exfalso
    rcases h with rfl | ⟨p0, t, rfl, hd' | ⟨f, n, hd', ha'⟩⟩
    · cases hpar
    · cases hpar; rw [hd'] at hd; cases hd
    · cases hpar; rw [hd'] at hd; cases hd; rw [ha'] at ha; cases ha

/-- non-vacuity: a concrete batch of two null members decodes and is answered in place -/
example : (handle (fun _ => []) { accounts := [] } (fun _ => .nullBody) [0x5b]
    (some (.arr #[.null, .null]))).2 =
    .batch 500 [errResp (Json.num (JsonNumber.fromNat 1)) RPCCodeInvalidRequest,
                errResp (Json.num (JsonNumber.fromNat 1)) RPCCodeInvalidRequest] := by
  rfl

end FFS.Props.C16
