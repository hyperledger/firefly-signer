/-
  Property C04 — EIP-712 digest equals the specification for every type graph and message.
  Model: FFS.Model.Eip712.encodeTypedDataV4 (pkg/eip712/typed_data_v4.go). Spec: FFS.Spec.Eip712.digest.
  Proved here, for every document: the shape of the digest (`digest_shape`); a struct value is read only through the
  values found under the type's member names (`members_by_name`), so neither an extra field nor the order of the keys
  changes the encoding of the struct — of that one object level, not of objects nested in its members; the digest depends
  on the `types` object only through the lookups reachable from `EIP712Domain` and the primary type (`digest_congr`, from
  `Lemmas/Eip712Closure.encoders_congr`), so neither the order of the definitions nor a definition whose name is a prefix
  of no name in use (`Unref`) changes it; the fuel is a proof device: from `docNeed` on the result is the same; signing the digest gives a 65-byte
  R ‖ S ‖ V that recovers to the signer (C05).
  PARTIAL: equality with Spec.Eip712.digest for every type graph (dependency closure and its ordering, array and
  atomic member encodings) is decided by the correspondence run (Tier A: implementation = Spec on generated type
  graphs incl. cycles, shared and unreferenced types), not proved; signature shape / recovery are C05's theorems.
-/
import FFS.Model.Eip712
import FFS.Lemmas.Eip712Closure
import FFS.Lemmas.Eip712Fuel
import FFS.Props.C05
import FFS.Props.C14

namespace FFS.Props.C04
open FFS FFS.Model.Abi FFS.Model.Eip712 FFS.Lemmas.Eip712Step

theorem facts : Gen.Eip712Facts.nilMemberGuard = true ∧ Gen.Eip712Facts.useNumber = true := C14.facts

theorem digest_shape (fuel : Nat) (p : TypedData) (d : Bytes) (h : encodeTypedDataV4 fuel p = .ok d) :
    ∃ dh, hashStruct fuel EIP712Domain (p.domain.getD (.obj [] [])) (effectiveTypes p) = .ok dh ∧
      ((p.primaryType ≠ EIP712Domain ∧ ∃ sh, hashStruct fuel p.primaryType (p.message.getD .null) (effectiveTypes p) = .ok sh ∧
          d = keccak ([0x19, 0x01] ++ dh ++ sh)) ∨
       (p.primaryType = EIP712Domain ∧ d = keccak ([0x19, 0x01] ++ dh))) := by
  rw [encodeTypedDataV4_eq] at h
  split at h
  · cases h
  · obtain ⟨dh, hd, h⟩ := Outcome.bind_eq_ok.mp h
    refine ⟨dh, hd, ?_⟩
    split at h
    · rename_i hne
      obtain ⟨sh, hs, h⟩ := Outcome.bind_eq_ok.mp h
      injection h with h
      exact Or.inl ⟨by simpa using hne, sh, hs, h.symm⟩
    · rename_i heq
      injection h with h
      exact Or.inr ⟨by simpa using heq, h.symm⟩

theorem digest_length (fuel : Nat) (p : TypedData) (d : Bytes) (h : encodeTypedDataV4 fuel p = .ok d) : d.length = 32 := by
  obtain ⟨dh, _, h2⟩ := digest_shape fuel p d h
  rcases h2 with ⟨_, sh, _, hd⟩ | ⟨_, hd⟩ <;> rw [hd] <;> exact Prim.keccak256_length _

/-- **Members are taken by name.** Two message objects that agree on the values found under the member names are
    encoded identically. -/
theorem members_by_name (types : TypeSet) : ∀ (ms : List Member) (fuel : Nat) (k1 k2 : List String) (v1 v2 : List Ext),
    (∀ m ∈ ms, lookupKey k1 v1 m.name = lookupKey k2 v2 m.name) →
    encodeMembers fuel ms k1 v1 types = encodeMembers fuel ms k2 v2 types
  | _, 0, _, _, _, _, _ => rfl
  | [], _ + 1, _, _, _, _, _ => rfl
  | m :: ms, fuel + 1, k1, k2, v1, v2, h => by
    rw [encodeMembers_cons, encodeMembers_cons, h m (by simp),
      members_by_name types ms fuel k1 k2 v1 v2 fun m' hm' => h m' (by simp [hm'])]

theorem encodeData_by_name (types : TypeSet) (fuel : Nat) (t : String) (k1 k2 : List String) (v1 v2 : List Ext)
    (h : ∀ r, encodeType t types = .ok r → ∀ m ∈ r.1, lookupKey k1 v1 m.name = lookupKey k2 v2 m.name) :
    Model.Eip712.encodeData fuel t (.obj k1 v1) types = Model.Eip712.encodeData fuel t (.obj k2 v2) types := by
  cases fuel with
  | zero => rfl
  | succ fuel =>
    rw [encodeData_succ, encodeData_succ]
    exact Outcome.bind_congr rfl fun r hr =>
      Outcome.bind_congr (members_by_name types r.1 fuel k1 k2 v1 v2 (h r hr)) fun _ _ => rfl

theorem lookupKey_append (keys : List String) (vals : List Ext) (k : String) (x : Ext) (name : String)
    (hlen : keys.length = vals.length) :
    lookupKey (keys ++ [k]) (vals ++ [x]) name = if k = name then some x else lookupKey keys vals name := by
  unfold lookupKey
  rw [List.zip_append hlen, List.reverse_append]
  exact Assoc.lookup_cons _ k name x

/-- **Extra message fields are ignored**: a field whose name is not a member of the struct type leaves the encoding
    of the struct unchanged. -/
theorem extra_field_ignored (types : TypeSet) (fuel : Nat) (t : String) (keys : List String) (vals : List Ext)
    (k : String) (x : Ext) (hlen : keys.length = vals.length)
    (hk : ∀ members enc, encodeType t types = .ok (members, enc) → ∀ m ∈ members, m.name ≠ k) :
    Model.Eip712.encodeData fuel t (.obj (keys ++ [k]) (vals ++ [x])) types =
      Model.Eip712.encodeData fuel t (.obj keys vals) types :=
  encodeData_by_name types fuel t _ _ _ _ fun r hr m hm =>
    (lookupKey_append keys vals k x m.name hlen).trans (if_neg fun e => hk r.1 r.2 hr m hm e.symm)

theorem lookupKey_perm (k1 k2 : List String) (v1 v2 : List Ext) (name : String)
    (hp : (k1.zip v1).Perm (k2.zip v2)) (hnd : ((k1.zip v1).map (·.1)).Nodup) :
    lookupKey k1 v1 name = lookupKey k2 v2 name :=
  congrArg _ (Assoc.find?_perm ((List.reverse_perm _).trans (hp.trans (List.reverse_perm _).symm))
    (by rw [List.map_reverse]; exact (List.reverse_perm _).nodup_iff.mpr hnd) name)

/-- **The order of the keys of a JSON object is irrelevant** to the encoding of the struct it is read as (keys distinct,
    as in any object that survives decoding into a Go map). -/
theorem key_order_irrelevant (types : TypeSet) (fuel : Nat) (t : String) (k1 k2 : List String) (v1 v2 : List Ext)
    (hp : (k1.zip v1).Perm (k2.zip v2)) (hnd : ((k1.zip v1).map (·.1)).Nodup) :
    Model.Eip712.encodeData fuel t (.obj k1 v1) types = Model.Eip712.encodeData fuel t (.obj k2 v2) types :=
  encodeData_by_name types fuel t k1 k2 v1 v2 fun _ _ m _ => lookupKey_perm k1 k2 v1 v2 m.name hp hnd

/-- **Signing typed data yields a 65-byte R ‖ S ‖ V signature with V ∈ {27, 28} that verifies for the digest against
    the signer's address** — for every document that hashes, every key and every lawful curve. -/
theorem typed_data_signature (C : Model.Secp.Curve) (hC : C.Lawful) (k : Nat) (hk : 1 ≤ k ∧ k < C.n) (fuel : Nat)
    (p : TypedData) (digest : Bytes) (hd : encodeTypedDataV4 fuel p = .ok digest) :
    ∃ sig : Bytes, signTypedDataV4 C k fuel p = .ok (digest, sig) ∧ sig.length = 65 ∧
      ∃ v r s : Nat, (v = 27 ∨ v = 28) ∧
        Model.Secp.decodeCompactRSV sig = .ok { V := some (v : Int), R := some (r : Int), S := some (s : Int) } ∧
        Model.Secp.recoverDirect C { V := some (v : Int), R := some (r : Int), S := some (s : Int) } digest 0 =
          .ok (Model.Secp.keyAddress C k) := by
  obtain ⟨v, r, s, hsig, hv, hr1, hrn, hs1, hsn⟩ := C05.sign_shape C hC k digest
  have hn := hC.n_lt
  obtain ⟨b, hb, hlen, hdecode⟩ := C05.compact_roundtrip r s v (by omega) (by omega) (by omega)
  refine ⟨b, ?_, hlen, v, r, s, hv, hdecode, ?_⟩
  · simp only [signTypedDataV4, hd, hsig, hb]
  · have := (C05.recover_sign_all_conventions C hC k hk digest 0 (by constructor <;> decide)).1
    simp only [hsig] at this
    exact this

open FFS.Lemmas.Eip712Closure (Good Unref Agree encoders_congr agree_all agree_good tsLookup_insert tsLookup_cons_good)

/-- two type sets that answer every lookup alike and have the same number of definitions -/
def SameSet (A B : TypeSet) : Prop := (∀ n, tsLookup A n = tsLookup B n) ∧ A.length = B.length

theorem encoders_same (A B : TypeSet) (h : SameSet A B) : ∀ fuel : Nat,
    (∀ tn v, encodeElement fuel tn v A = encodeElement fuel tn v B) ∧
    (∀ tn v, hashStruct fuel tn v A = hashStruct fuel tn v B) ∧
    (∀ tn v, Model.Eip712.encodeData fuel tn v A = Model.Eip712.encodeData fuel tn v B) ∧
    (∀ ms ks vs, encodeMembers fuel ms ks vs A = encodeMembers fuel ms ks vs B) ∧
    (∀ tn v, hashArray fuel tn A v = hashArray fuel tn B v) ∧
    (∀ t xs, hashElems fuel t xs A = hashElems fuel t xs B) := by
  intro fuel
  simpa using encoders_congr (agree_all h.1) fuel

/-- lookups that agree on the declared types agree on the type set `EncodeTypedDataV4` works with -/
theorem effective_lookup (P : String → Prop) (p : TypedData) {A B : TypeSet} (h : ∀ n, P n → tsLookup A n = tsLookup B n)
    (hD : P EIP712Domain) (n : String) (hn : P n) :
    tsLookup (effectiveTypes { p with types := some A }) n = tsLookup (effectiveTypes { p with types := some B }) n := by
  simp only [effectiveTypes, Option.getD_some, h _ hD]
  split
  · exact h n hn
  · rw [tsLookup_insert, tsLookup_insert, h n hn]

/-- the digest depends on the `types` object only through the lookups that can be reached from `EIP712Domain` and the
    primary type -/
theorem digest_congr {P : String → Prop} (fuel : Nat) (p : TypedData) {A B : TypeSet}
    (h : Agree P (effectiveTypes { p with types := some A }) (effectiveTypes { p with types := some B }))
    (hD : P EIP712Domain) (hP : P p.primaryType) :
    encodeTypedDataV4 fuel { p with types := some A } = encodeTypedDataV4 fuel { p with types := some B } := by
  have hS := (encoders_congr h fuel).2.1
  rw [encodeTypedDataV4_eq, encodeTypedDataV4_eq]
  simp only [hS _ _ hD, hS _ _ hP]

theorem tsLookup_perm (A B : TypeSet) (hp : A.Perm B) (hnd : (A.map (·.1)).Nodup) (n : String) :
    tsLookup A n = tsLookup B n :=
  congrArg _ (Assoc.find?_perm hp hnd n)

/-- **The order of the type definitions is irrelevant**: a `types` object is a map; two documents whose type
    definitions are the same up to order (names distinct, as in any JSON object that survives decoding into a Go map)
    have the same digest — or fail alike. -/
theorem type_order_irrelevant (fuel : Nat) (p : TypedData) (A B : TypeSet) (hp : A.Perm B)
    (hnd : (A.map (·.1)).Nodup) :
    encodeTypedDataV4 fuel { p with types := some A } = encodeTypedDataV4 fuel { p with types := some B } :=
  digest_congr fuel p
    (agree_all fun n =>
      effective_lookup (fun _ => True) p (fun n _ => tsLookup_perm A B hp hnd n) trivial n trivial)
    trivial trivial

/-- **The closure's fuel is not an artefact**: the model gives `addNestedTypes` `|types| + 2` units of fuel; any larger
    amount computes the same dependency closure (the Go recursion has no fuel at all). -/
theorem closure_fuel_sufficient (all : TypeSet) (tn : String) (j : Nat) :
    addNestedTypes (all.length + 2 + j) tn all [] = addNestedTypes (all.length + 2) tn all [] :=
  FFS.Lemmas.Eip712Closure.closure_fuel all tn j

/-- **An unreferenced type definition is irrelevant.** Add to the `types` object a definition `u` that nothing refers
    to — `u` is not (a prefix of) the primary type, `EIP712Domain`, or the type of any member of any definition in the
    effective type set — and the digest is the same, or the document fails alike. The definition `d` itself is
    arbitrary (it may be `null`, contain `null` members, refer to missing types, be recursive). This needs fuel
    sufficiency of the dependency closure, because the larger type set gives the closure more fuel. -/
theorem unreferenced_irrelevant (fuel : Nat) (p : TypedData) (A : TypeSet) (u : String) (d : TypeDef)
    (hU : Unref u (effectiveTypes { p with types := some A }))
    (hP : Good u p.primaryType) (hD : Good u EIP712Domain) :
    encodeTypedDataV4 fuel { p with types := some ((u, d) :: A) } = encodeTypedDataV4 fuel { p with types := some A } :=
  digest_congr fuel p
    (agree_good (effective_lookup _ p (fun _ => tsLookup_cons_good d A) hD) hU)
    hD hP

theorem digest_fuel_step (f : Nat) (p : TypedData) (h : encodeTypedDataV4 f p ≠ .panic) :
    encodeTypedDataV4 (f + 1) p = encodeTypedDataV4 f p := by
  have hS := (FFS.Lemmas.Eip712Fuel.encoders_mono (effectiveTypes p) f).2.1
  rw [encodeTypedDataV4_eq] at h ⊢
  rw [encodeTypedDataV4_eq]
  split
  · rfl
  · rename_i hpt
    rw [if_neg hpt] at h
    refine Outcome.bind_mono (hS _ _) (fun dh _ => ?_) h
    split
    · exact Outcome.bind_mono (hS _ _) fun _ _ _ => rfl
    · exact fun _ => rfl

/-- **The digest does not depend on the fuel**: the fuel of the model is a proof device, the Go recursion has none. All
    six encoders are monotone in the fuel (`Lemmas/Eip712Fuel.encoders_mono`), and `docNeed p` always gives a result
    other than out-of-fuel (C14 `encodeTypedDataV4_total`). -/
theorem digest_fuel_independent (f : Nat) (p : TypedData) (h : encodeTypedDataV4 f p ≠ .panic) :
    ∀ j, encodeTypedDataV4 (f + j) p = encodeTypedDataV4 f p :=
  fuel_stable (encodeTypedDataV4 · p) f fun n _ e => digest_fuel_step n p (e ▸ h)

/-- **The digest of a document is well defined.** -/
theorem digest_well_defined (p : TypedData) (fuel : Nat) (hf : docNeed p ≤ fuel) :
    encodeTypedDataV4 fuel p = encodeTypedDataV4 (docNeed p) p ∧ encodeTypedDataV4 fuel p ≠ .panic := by
  have h0 := FFS.Props.C14.encodeTypedDataV4_total p (docNeed p) (Nat.le_refl _)
  have := digest_fuel_independent (docNeed p) p h0 (fuel - docNeed p)
  rw [Nat.add_sub_cancel' hf] at this
  exact ⟨this, FFS.Props.C14.encodeTypedDataV4_total p fuel hf⟩

def exDoc : TypedData :=
  { types := some [("EIP712Domain", some [some { name := "name", type := "string" }]),
                   ("Mail", some [some { name := "to", type := "address" }, some { name := "n", type := "uint256" }])],
    primaryType := "Mail",
    domain := some (.obj ["name"] [.str "x" .fail .fail]),
    message := some (.obj ["to", "n"] [.str "0x0000000000000000000000000000000000000001" .fail .fail, .num "5" (.int 5) (.int 5)]) }

/-- `encodeTypedDataV4` succeeds on `exDoc` with a 32-byte digest: the `= .ok d` hypotheses of `digest_shape` and
    `typed_data_signature` are satisfiable -/
example : (match encodeTypedDataV4 8 exDoc with | .ok d => d.length == 32 | _ => false) = true := by decide +kernel

/-- the same document with the message keys in another order and an extra member is accepted too (the documents
    `key_order_irrelevant` and `extra_field_ignored` relate) -/
example : (match encodeTypedDataV4 8 { exDoc with message := some (.obj ["n", "zz", "to"]
        [.num "5" (.int 5) (.int 5), .bool true, .str "0x0000000000000000000000000000000000000001" .fail .fail]) } with
    | .ok d => d.length == 32 | _ => false) = true := by decide +kernel

/-- `exDoc`'s type definitions -/
def exTypes : TypeSet :=
  [("EIP712Domain", some [some { name := "name", type := "string" }]),
   ("Mail", some [some { name := "to", type := "address" }, some { name := "n", type := "uint256" }])]

/-- non-vacuity of `type_order_irrelevant`: the two definitions in the other order are a permutation with distinct
    names -/
example : exTypes.Perm
      [("Mail", some [some { name := "to", type := "address" }, some { name := "n", type := "uint256" }]),
       ("EIP712Domain", some [some { name := "name", type := "string" }])] ∧
    (exTypes.map fun (d : String × TypeDef) => d.1).Nodup :=
  ⟨List.Perm.swap _ _ _, by decide⟩

/-- non-vacuity of `unreferenced_irrelevant`: `Junk` (a self-referential definition with a `null` member) is unreferenced
    in `exDoc`; the hypotheses hold and both documents are accepted -/
example : Unref "Junk" (effectiveTypes exDoc) ∧ Good "Junk" exDoc.primaryType ∧ Good "Junk" EIP712Domain := by
  refine ⟨?_, by decide +kernel, by decide +kernel⟩
  have hE : effectiveTypes exDoc = exDoc.types.getD [] := by
    simp [effectiveTypes, exDoc, tsLookup, EIP712Domain]
  rw [hE]
  intro e he raw hr mem hm
  simp [exDoc] at he
  rcases he with h | h <;> subst h <;> simp at hr <;> subst hr <;> simp at hm
  · subst hm; decide +kernel
  · rcases hm with h | h <;> subst h <;> decide +kernel

example : (match encodeTypedDataV4 8 { exDoc with types := some (("Junk", some [none, some { name := "j", type := "Junk[]" }]) ::
      exDoc.types.getD []) } with | .ok d => d.length == 32 | _ => false) = true := by decide +kernel

end FFS.Props.C04
