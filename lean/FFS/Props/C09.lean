/-
  Property C09 — the proxy signs eth_sendTransaction for `from`, relays everything else unchanged.
  Model: FFS.Model.Proxy (rpcprocessor.go, rpchandler.go, rpcbackend.SyncRequest) for every request, wallet and
  backend script. A forwarded `Fwd.rawTx a tx n fields raw` carries the bytes `raw` the wallet's `Sign` returned for
  the transaction `fields` decoded from the request object `tx` with nonce `n`. `submitted_recovers` composes this
  with C08 (the wallet signs with the key owning the address: `OwnerSigning`) and C01 (`recover_sign_auto`): the
  submitted bytes recover, under the proxy's chain id, to `from` with the requested fields and nonce. The harness
  recovers every raw transaction the real backend received and compares address and fields with the model's.
  Concurrency: the model assigns response slot i to member i (`batchReply` is a `map`); the real handler writes
  slot i from goroutine i and waits for all of them — that is the only schedule-dependent part and is exercised
  by the harness (batches up to 64 against the real process), not proved here.
-/
import FFS.Lemmas.Proxy
import FFS.Props.C01
import FFS.Props.C19
namespace FFS.Props.C09
open Lean FFS FFS.Model.Proxy FFS.Gen.ProxyFacts

/-- the dispatch table and the error codes as regenerated from the source -/
theorem facts :
    dispatch.map (·.1) = ["eth_accounts", "personal_accounts", "eth_sendTransaction", "*"] ∧
    idRestored = true ∧ versionForced = true ∧
    nullNonceRejected = true ∧ RPCCodeParseError = -32700 ∧ RPCCodeInvalidRequest = -32600 ∧ RPCCodeInternalError = -32603 :=
  ⟨rfl, rfl, rfl, rfl, rfl, rfl, rfl⟩

theorem built_id {id : Json} {r : Resp} (h : Built id r) : r.id = id := by
  cases h <;> rfl

/-- **Own id, whatever the backend echoed.** -/
theorem syncRequest_id (script : Script) (id : Json) (m : String) : (syncRequest script id m).1.id = id :=
  built_id (syncRequest_built script id m)

/-- **Backend result / error relayed.** -/
theorem syncRequest_result (script : Script) (id : Json) (m : String) (j : Json)
    (h : script m = .result j ∨ script m = .resultNoVersion j ∨ script m = .wrongId j) :
    (syncRequest script id m).1.result = some j ∧ (syncRequest script id m).2 = false := by
  unfold syncRequest
  rcases h with h | h | h <;> simp [h]

theorem syncRequest_error (script : Script) (id : Json) (m : String) (c : Int)
    (h : script m = .rpcError c ∨ script m = .httpErrorWithBody c) :
    (syncRequest script id m).1.errorCode = some c ∧ (syncRequest script id m).2 = true := by
  unfold syncRequest
  rcases h with h | h <;> simp [h]

theorem syncRequest_failure (script : Script) (id : Json) (m : String)
    (h : script m = .httpErrorNoBody ∨ script m = .connFail) :
    (syncRequest script id m).1.errorCode = some RPCCodeInternalError ∧ (syncRequest script id m).2 = true := by
  unfold syncRequest
  rcases h with h | h <;> simp [h, errResp, httpErrorBuildsError]

/-- **Each response carries the request's own id.** -/
theorem response_id (mem : Members) (w : Wallet) (script : Script) (r : Req) (id : Json) (h : r.id = some id) :
    (processRPC mem w script (some r)).2.1.id = id := by
  simpa only [reqId, h, Option.getD_some] using built_id (processRPC_built mem w script (some r))

/-- **eth_accounts returns the wallet's addresses** and reaches no backend. -/
theorem accounts (mem : Members) (w : Wallet) (script : Script) (r : Req) (id : Json) (h : r.id = some id)
    (hm : r.method = "eth_accounts" ∨ r.method = "personal_accounts") :
    processRPC mem w script (some r) = ([], accountsResp w id, false) := by
  unfold processRPC
  simp only [h]
  rcases hm with hm | hm <;> simp [hm, isAccountsMethod]

/-- **Every other method reaches the backend with the same method and parameters**, once, and the reply is
    the backend's. -/
theorem passthrough (mem : Members) (w : Wallet) (script : Script) (r : Req) (id : Json) (h : r.id = some id)
    (h1 : r.method ≠ "eth_accounts") (h2 : r.method ≠ "personal_accounts") (h3 : r.method ≠ "eth_sendTransaction") :
    processRPC mem w script (some r) =
      ([Fwd.plain r.method r.params], (syncRequest script id r.method).1, (syncRequest script id r.method).2) := by
  unfold processRPC
  simp [h, isAccountsMethod, h1, h2, h3]

def isRaw : Fwd → Bool
  | .rawTx _ _ _ _ _ => true
  | .plain _ _ => false

theorem noRaw {pre : List Fwd} (h : CountOnly pre) : pre.filter isRaw = [] := by
  rcases h with rfl | ⟨_, rfl⟩ <;> rfl

theorem rawTx_not_mem {pre : List Fwd} (h : CountOnly pre) {a : Bytes} {tx : Json} {n : Option Nat} {fl : Model.Tx.Tx}
    {raw : Bytes} : Fwd.rawTx a tx n fl raw ∉ pre := by
  rcases h with rfl | ⟨_, rfl⟩ <;> simp [countFwd]

/-- **The nonce that is signed is a definite one**: the supplied nonce, or else the pending count the backend
    reported for `from` (a successful eth_getTransactionCount whose result is an integer). Never an implied zero. -/
theorem nonceLookup_nonce (script : Script) (f : Json) (nonce : Option Nat) (fwds : List Fwd) (n : Option Nat)
    (h : nonceLookup script f nonce = .got fwds n) :
    (∃ k, nonce = some k ∧ n = some k ∧ fwds = []) ∨
    (nonce = none ∧ ∃ a k, addrOfJson f = some a ∧ fwds = [countFwd a] ∧ n = some k ∧
      (syncRequest script (Json.str "internal") "eth_getTransactionCount").2 = false ∧
      ((syncRequest script (Json.str "internal") "eth_getTransactionCount").1.result.bind fun v => hexIntOf v) = some (some k)) := by
  have hs := nonceLookup_spec script f nonce
  rw [h] at hs
  cases hs with
  | supplied k => exact .inl ⟨k, rfl, rfl, rfl⟩
  | reported ha hs hk => exact .inr ⟨rfl, _, _, ha, rfl, rfl, hs, hk⟩

theorem nonceLookup_definite (script : Script) (f : Json) (nonce : Option Nat) (fwds : List Fwd) (n : Option Nat)
    (h : nonceLookup script f nonce = .got fwds n) : n.isSome = true := by
  rcases nonceLookup_nonce script f nonce fwds n h with ⟨_, _, rfl, _⟩ | ⟨_, _, _, _, _, rfl, _⟩ <;> rfl

/-- **eth_sendTransaction: at most one raw transaction reaches the backend; its bytes are what the wallet's
    `Sign` returned for `from` (which the wallet holds) and for the transaction decoded from the request's own
    object with the supplied / reported nonce.** -/
theorem sendTransaction_forwards (mem : Members) (w : Wallet) (script : Script) (id : Json) (params : List Json) :
    let fwds := (sendTransaction mem w script id params).1
    (fwds.filter isRaw).length ≤ 1 ∧
    ∀ a tx n fields raw, Fwd.rawTx a tx n fields raw ∈ fwds →
      a ∈ w.accounts ∧ fields = txOfJson (mem tx) n ∧ w.sign a fields = .ok raw ∧
      ∃ t f nonce, params = tx :: t ∧ decodeTx tx (mem tx) = some (some f, nonce) ∧ addrOfJson f = some a ∧
        ∃ pre, nonceLookup script f nonce = .got pre n := by
  match sendTransaction mem w script id params, sendTransaction_out mem w script id params with
  | _, .refused _ hp => exact ⟨by simp [noRaw hp], fun _ _ _ _ _ hm => absurd hm (rawTx_not_mem hp)⟩
  | _, .submitted hpar hd hl hp ha hw hs =>
    subst hpar
    refine ⟨by simp [noRaw hp, List.filter, isRaw], fun a' tx n' fl raw' hm => ?_⟩
    rcases List.mem_append.mp hm with hm | hm
    · exact absurd hm (rawTx_not_mem hp)
    · cases List.mem_singleton.mp hm
      exact ⟨hw, rfl, hs, _, _, _, rfl, hd, ha, _, hl⟩

/-- **Nothing is submitted when `from` is unknown** (not an address, or not one the wallet holds). -/
theorem unknown_from_nothing_submitted (mem : Members) (w : Wallet) (script : Script) (id : Json)
    (params : List Json)
    (h : ∀ tx t f nonce a, params = tx :: t → decodeTx tx (mem tx) = some (some f, nonce) →
          addrOfJson f = some a → a ∉ w.accounts) :
    ((sendTransaction mem w script id params).1.filter isRaw) = [] := by
  match sendTransaction mem w script id params, sendTransaction_out mem w script id params with
  | _, .refused _ hp => exact noRaw hp
  | _, .submitted hpar hd _ _ ha hw _ => exact absurd hw (h _ _ _ _ _ hpar hd ha)

/-- **Nothing is submitted when signing fails.** -/
theorem sign_failure_nothing_submitted (mem : Members) (w : Wallet) (script : Script) (id : Json)
    (params : List Json) (h : ∀ a tx raw, w.sign a tx ≠ .ok raw) :
    ((sendTransaction mem w script id params).1.filter isRaw) = [] := by
  match sendTransaction mem w script id params, sendTransaction_out mem w script id params with
  | _, .refused _ hp => exact noRaw hp
  | _, .submitted _ _ _ _ _ _ hs => exact absurd hs (h _ _ _)

/-- **A well-formed eth_sendTransaction for a held account is forwarded exactly once** (nonce supplied). -/
theorem sendTransaction_known (mem : Members) (w : Wallet) (script : Script) (id : Json) (tx f : Json)
    (t : List Json) (k : Nat) (a : Bytes) (raw : Bytes) (hd : decodeTx tx (mem tx) = some (some f, some k))
    (ha : addrOfJson f = some a) (hw : a ∈ w.accounts) (hs : w.sign a (txOfJson (mem tx) (some k)) = .ok raw) :
    sendTransaction mem w script id (tx :: t) =
      ([Fwd.rawTx a tx (some k) (txOfJson (mem tx) (some k)) raw], (syncRequest script id "eth_sendRawTransaction").1,
        (syncRequest script id "eth_sendRawTransaction").2) := by
  simp [sendTransaction, hd, nonceLookup, signAndSend, ha, hw, hs]

open FFS.Model.Secp FFS.Model.Tx in
/-- C08's guarantee in the vocabulary of this model: whenever the wallet returns bytes for address `a`, they are
    `Transaction.Sign` (automatic mode, the proxy's chain id) with a valid key whose address is `a`. -/
def OwnerSigning (C : Curve) (cid : Int) (w : Wallet) : Prop :=
  ∀ a tx raw, w.sign a tx = .ok raw → ∃ k, (1 ≤ k ∧ k < C.n) ∧ keyAddress C k = a ∧ raw = signTx C .auto tx k cid

open FFS.Model.Secp FFS.Model.Tx in
def keyWallet (C : Curve) (keys : List Nat) (cid : Int) : Wallet :=
  { accounts := keys.map (keyAddress C),
    sign := fun a tx => match keys.find? (fun k => keyAddress C k == a) with
      | some k => .ok (signTx C .auto tx k cid)
      | none => .err }

open FFS.Model.Secp FFS.Model.Tx in
/-- non-vacuity of `OwnerSigning`: the key-holding wallet is owner-signing -/
theorem keyWallet_ownerSigning (C : Curve) (keys : List Nat) (cid : Int) (hkeys : ∀ k ∈ keys, 1 ≤ k ∧ k < C.n) :
    OwnerSigning C cid (keyWallet C keys cid) := by
  intro a tx raw h
  simp only [keyWallet] at h
  split at h
  next k hf =>
    cases h
    exact ⟨k, hkeys k (List.mem_of_find?_eq_some hf), by simpa using List.find?_some hf, rfl⟩
  · cases h

theorem txOfJson_to (kvs : List (String × Json)) (n : Option Nat) (a : Bytes)
    (h : (txOfJson kvs n).to = some a) : a.length = 20 := by
  simp only [txOfJson] at h
  split at h
  · split at h
    next hs =>
      cases h
      exact ((C19.address_parse_iff _ _).mp hs).2
    · cases h
  · cases h

theorem txOfJson_nonce (kvs : List (String × Json)) (n : Option Nat) : (txOfJson kvs n).nonce = n := rfl

open FFS.Model.Secp FFS.Model.Tx in
/-- **The eth_sendRawTransaction payload recovers, under the proxy's chain id, to the requested `from` with the
    requested fields and the supplied / reported nonce.** For every owner-signing wallet (C08), every request,
    backend script and lawful curve: the bytes that reach the backend are a transaction from which
    `RecoverRawTransaction` reads back exactly `from`, the decoded request fields with nonce `n` (absent integers as
    0: `C01.normAuto`), and the specification signing payload. `C01.Fits`: integer fields are uint256 and the data is
    below 1 GiB (the `to` part of it always holds for a decoded request: `txOfJson_to`). -/
theorem submitted_recovers (C : Curve) (hC : C.Lawful) (cid : Int) (hc : 0 ≤ cid ∧ cid ≤ 2 ^ 53)
    (mem : Members) (w : Wallet) (hw : OwnerSigning C cid w) (script : Script) (id : Json) (params : List Json)
    (a : Bytes) (tx : Json) (n : Option Nat) (fields : Model.Tx.Tx) (raw : Bytes)
    (hmem : Fwd.rawTx a tx n fields raw ∈ (sendTransaction mem w script id params).1)
    (hfit : C01.Fits fields) :
    fields = txOfJson (mem tx) n ∧ n.isSome = true ∧
    recoverRaw C raw cid = .ok (a, C01.normAuto fields, payloadAuto fields cid) := by
  obtain ⟨_, hf, hs, t, f, nonce, _, _, _, pre, hl⟩ := (sendTransaction_forwards mem w script id params).2 a tx n fields raw hmem
  obtain ⟨k, hk, hka, hraw⟩ := hw a fields raw hs
  refine ⟨hf, nonceLookup_definite script f nonce pre n hl, ?_⟩
  rw [hraw, ← hka]
  exact C01.recover_sign_auto C hC k hk fields cid hc hfit

/-- **Batch responses are positionally aligned with their requests**: slot i is the response to member i, and
    carries member i's id; failures of other members do not move it. -/
theorem batch_aligned (mem : Members) (w : Wallet) (script : Script) (ms : List (Option Req)) :
    ∃ st, (batchReply mem w script ms).2 = .batch st (ms.map fun m => (processRPC mem w script m).2.1) :=
  ⟨_, by simp only [batchReply, List.map_map]; rfl⟩

theorem batch_ids (mem : Members) (w : Wallet) (script : Script) (ms : List (Option Req)) (i : Nat)
    (r : Req) (id : Json) (hi : ms[i]? = some (some r)) (hid : r.id = some id) :
    ∃ st rs, (batchReply mem w script ms).2 = .batch st rs ∧ (rs[i]?).map (·.id) = some id := by
  obtain ⟨st, h⟩ := batch_aligned mem w script ms
  refine ⟨st, _, h, ?_⟩
  simp [List.getElem?_map, hi, response_id mem w script r id hid]

end FFS.Props.C09
