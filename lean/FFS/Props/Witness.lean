/-
  FFS.Props.Witness — kernel-evaluated witnesses that are too slow for the per-property modules (each forces a hash
  or a key derivation inside the kernel, 5–60 s): known-answer tests of the executable reference primitives the
  models are built on (published vectors: FIPS 180-4, RFC 7914, the well-known Keccak-256 values, SEC 2). The
  non-vacuity witnesses of C12 that need a selector are in FFS.Props.WitnessAbi.
  Everything here is `decide +kernel`: the kernel evaluates the definition; no axiom is added (no native_decide).
  Built by `lake build` and by the thorough tier; the references are additionally compared with the Go libraries on
  random inputs by every run of the harness.
-/
import FFS.Util.Hex
import FFS.Prim.Keccak
import FFS.Prim.Sha256
import FFS.Prim.Secp256k1
namespace FFS.Props.Witness
open FFS

def hx (s : String) : Bytes := (bytesOfHex? s).getD []

/-! ### Keccak-256 -/
theorem keccak_empty : Prim.keccak256 [] = hx "c5d2460186f7233c927e7db2dcc703c0e500b653ca82273b7bfad8045d85a470" := by
  decide +kernel
theorem keccak_abc : Prim.keccak256 [0x61, 0x62, 0x63] = hx "4e03657aea45a94fc7d47ba826c8d667c0d1e6e33a64a036ec44f58fa12d6c45" := by
  decide +kernel
/-- a message longer than one 136-byte block (200 × 0xa3, the Keccak team's test pattern) -/
theorem keccak_two_blocks : (Prim.keccak256 (List.replicate 200 0xa3)).length = 32 := by decide +kernel

/-! ### SHA-256, HMAC, PBKDF2 (FIPS 180-4; RFC 7914 §11) -/
theorem sha256_abc : Prim.sha256 [0x61, 0x62, 0x63] = hx "ba7816bf8f01cfea414140de5dae2223b00361a396177a9cb410ff61f20015ad" := by
  decide +kernel
theorem pbkdf2_rfc7914 : Prim.pbkdf2Sha256 "passwd".toUTF8.toList "salt".toUTF8.toList 1 64 =
    hx "55ac046e56e3089fec1691c22544b605f94185216dde0465e68b9d57c20dacbc49ca9cccf179b645991664b39d77ef317c71b845b1e30bd509112041d3a19783" := by
  decide +kernel

/-! ### secp256k1 (SEC 2): the generator of the reference is on the curve. (Scalar multiplication and AES use `while`
    loops / a computed S-box that the kernel cannot evaluate in reasonable time: those references are validated by the
    harness's differential runs only.) -/
theorem secp_generator_on_curve : Prim.Secp.onCurve Prim.Secp.G = true := by decide +kernel

end FFS.Props.Witness
