/-
  Property C20 — ABI <-> FFI conversion preserves signatures and is total on arbitrary schemas.
  Model: FFS.Model.Ffi (pkg/ffi2abi/ffi.go: processField, buildABIParameterArrayForObject, input type validation).
  Proved:
  * `null_property_is_error`, `missing_details_is_error`, `array_without_items_is_error`,
    `missing_index_is_error`, `index_out_of_range_is_error`, `colliding_index_is_error`, `type_mismatch_is_error` :
        each inconsistency the property names, met at the top schema resp. at the member `placeAll` works on, is an
        error (not a panic, not a silently wrong ABI); no theorem lifts them to an inconsistency deeper in a schema.
  * `no_holes`  : when every member of an object schema has been placed, no position is left empty — the "nil
        parameter" panic of `buildABIParameterArrayForObject` cannot be reached (placements are in range and never
        overwrite, and there are as many as positions).
  * **`abi_ffi_abi`** : the schema generated for a parameter converts back to exactly that parameter — name, type string,
        indexed flag, internal type and, recursively through arrays and tuples, the same components in the same order
        (hence the same signature) — for every type tree whose components fit it (`Shape`: distinct member names, no components under an
        elementary type),
        arrays nested to any depth, and fuel covering the type (`need`).
  * `conversion_total`, `processField_total`, `convertParam_never_panics` : with the fuel `convertParam` passes
        (`fieldFuel`, more than the size of the schema) no schema whatsoever makes the conversion panic.
  PARTIAL: the stand-alone signature helper agreeing with the entry's own signature is decided by the correspondence run;
  `abi_ffi_abi` is about `processField` at any fuel of at least `need t`, and that `fieldFuel` of the generated schema
  is that much is not proved.
-/
import FFS.Model.Ffi
import FFS.Lemmas.Outcome
import FFS.Props.C13
namespace FFS.Props.C20
open FFS FFS.Model.Abi FFS.Model.Ffi
open FFS.Outcome (bind_eq_ok)

theorem facts : Gen.FfiFacts.guards = true ∧ Gen.FfiFacts.innermostItems = true ∧ Gen.FfiFacts.nestedSignature = true := by decide

theorem processField_some (fuel : Nat) (name : String) (s : Schema) (d : Details) (hd : s.details = some d) :
    processField (fuel + 1) name (some s) =
      (if s.type = "object" then buildParams fuel s.props
       else if s.type = "array" then
         match innermostItems (max 64 (optSize s.items)) s.items with
         | none => .err
         | some it => buildParams fuel it.props
       else .ok []).bind fun cs => .ok (.mk name d.type d.indexed d.internalType cs) := by
  simp only [processField, hd, facts.1, facts.2.1, if_true, beq_iff_eq]
  generalize (if s.type = "object" then buildParams fuel s.props else _) = comps
  cases comps <;> rfl

theorem placeAll_cons (fuel : Nat) (k : String) (so : Option Schema) (rest : List (String × Option Schema))
    (slots : List (Option Param)) :
    placeAll (fuel + 1) ((k, so) :: rest) slots =
      (processField fuel k so).bind fun p =>
        match (so.bind fun s => s.details.bind (·.index)) with
        | none => .err
        | some i =>
          match placeAt slots i p with
          | some slots' => placeAll fuel rest slots'
          | none => .err := by
  rw [placeAll]
  cases processField fuel k so <;> simp only [facts.1, if_true] <;> rfl

theorem placeAt_some {α : Type} {slots slots' : List (Option α)} {i : Int} {x : α} (h : placeAt slots i x = some slots') :
    slots[i.toNat]? = some none ∧ slots' = slots.set i.toNat (some x) := by
  unfold placeAt at h
  split at h
  · cases h
  · split at h <;> cases h
    exact ⟨‹_›, rfl⟩

theorem null_property_is_error (fuel : Nat) (name : String) : processField (fuel + 1) name none = .err := by
  simp [processField, facts.1]

theorem missing_details_is_error (fuel : Nat) (name : String) (s : Schema) (h : s.details = none) :
    processField (fuel + 1) name (some s) = .err := by
  simp [processField, h]

theorem array_without_items_is_error (fuel : Nat) (name : String) (s : Schema) (d : Details)
    (hd : s.details = some d) (ht : s.type = "array") (hi : Model.Ffi.innermostItems (max 64 (optSize s.items)) s.items = none) :
    processField (fuel + 1) name (some s) = .err := by
  simp [processField_some fuel name s d hd, ht, hi]

theorem missing_index_is_error (fuel : Nat) (k : String) (so : Option Schema) (rest : List (String × Option Schema))
    (slots : List (Option Param)) (p : Param) (hp : processField fuel k so = .ok p)
    (hi : (so.bind fun s => s.details.bind (·.index)) = none) :
    placeAll (fuel + 1) ((k, so) :: rest) slots = .err := by
  simp [placeAll_cons, hp, hi]

theorem index_out_of_range_is_error (fuel : Nat) (k : String) (so : Option Schema) (rest : List (String × Option Schema))
    (slots : List (Option Param)) (p : Param) (i : Int) (hp : processField fuel k so = .ok p)
    (hi : (so.bind fun s => s.details.bind (·.index)) = some i) (hr : i < 0 ∨ (slots.length : Int) ≤ i) :
    placeAll (fuel + 1) ((k, so) :: rest) slots = .err := by
  have : placeAt slots i p = none := by
    unfold placeAt
    split
    · rfl
    · rw [List.getElem?_eq_none_iff.mpr (by omega)]
  simp [placeAll_cons, hp, hi, this]

theorem colliding_index_is_error (fuel : Nat) (k : String) (so : Option Schema) (rest : List (String × Option Schema))
    (slots : List (Option Param)) (p q : Param) (i : Int) (hp : processField fuel k so = .ok p)
    (hi : (so.bind fun s => s.details.bind (·.index)) = some i) (hocc : slots[i.toNat]? = some (some q)) :
    placeAll (fuel + 1) ((k, so) :: rest) slots = .err := by
  have : placeAt slots i p = none := by
    unfold placeAt
    split
    · rfl
    · rw [hocc]
  simp [placeAll_cons, hp, hi, this]

theorem type_mismatch_is_error (name : String) (sc : Schema) (p : Param) (t : Ty)
    (hp : processField (fieldFuel (some sc)) name (some sc) = .ok p) (ht : parseParam p = .ok t) (hv : inputTypeValid sc t = false) :
    convertParam true name (some sc) = .err := by
  simp [convertParam, hp, ht, hv]

/-- each placement fills a slot that was empty -/
theorem placeAll_spec : ∀ (fuel : Nat) (ps : List (String × Option Schema)) (slots slots' : List (Option Param)),
    placeAll fuel ps slots = .ok slots' → slots'.countP Option.isNone + ps.length = slots.countP Option.isNone
  | 0, _, _, _, h => by simp [placeAll] at h
  | _ + 1, [], _, _, h => by simp [placeAll] at h; subst h; simp
  | fuel + 1, (k, so) :: rest, slots, slots', h => by
    rw [placeAll_cons] at h
    obtain ⟨p, _, h⟩ := bind_eq_ok.mp h
    split at h
    · cases h
    · split at h
      · obtain ⟨hget, rfl⟩ := placeAt_some ‹_ = some _›
        obtain ⟨hlt, hnone⟩ := List.getElem?_eq_some_iff.mp hget
        have h2 := placeAll_spec fuel rest _ slots' h
        rw [List.countP_set hlt, hnone] at h2
        have : 0 < slots.countP Option.isNone := List.countP_pos_iff.mpr ⟨_, List.mem_of_getElem hnone, rfl⟩
        simp at h2 ⊢
        omega
      · cases h

/-- **No holes.** Placing every member of an object into as many empty positions leaves none empty: the nil-parameter
    panic of `buildABIParameterArrayForObject` is unreachable. -/
theorem no_holes (fuel : Nat) (ps : List (String × Option Schema)) (slots' : List (Option Param))
    (h : placeAll fuel ps (List.replicate ps.length none) = .ok slots') : slots'.all Option.isSome = true := by
  have h0 : slots'.countP Option.isNone = 0 := by
    simpa [List.countP_replicate] using placeAll_spec fuel ps _ slots' h
  rw [List.all_eq_true]
  intro x hx
  cases x with
  | some _ => rfl
  | none => exact absurd rfl (List.countP_eq_zero.mp h0 _ hx)

/-- so `buildParams` panics only by running out of fuel or because a member's own conversion did -/
theorem buildParams_some (fuel : Nat) (props : List (String × Option Schema)) :
    buildParams (fuel + 1) (some props) =
      (placeAll fuel (dedupLast props) (List.replicate (dedupLast props).length none)).bind fun slots =>
        .ok (slots.filterMap id) := by
  rw [buildParams]
  cases h : placeAll fuel (dedupLast props) (List.replicate (dedupLast props).length none) with
  | ok slots => simp [no_holes fuel _ slots h]
  | _ => rfl

theorem optSize_pos (so : Option Schema) : 1 ≤ optSize so := by cases so <;> simp [optSize]
theorem listSize_pos (l : List (String × Option Schema)) : 1 ≤ listSize l := by
  cases l with
  | nil => simp [listSize]
  | cons a r => obtain ⟨k, so⟩ := a; simp [listSize]; omega

theorem dedupLast_size : ∀ (l : List (String × Option Schema)), listSize (dedupLast l) ≤ listSize l
  | [] => by simp [dedupLast]
  | (k, so) :: rest => by
    have ih := dedupLast_size rest
    rw [dedupLast]
    split
    · simp only [listSize]; omega
    · simp only [listSize]; omega

theorem size_pos (s : Schema) : 0 < s.size := by
  cases s; rw [Schema.size]; omega

theorem size_props (s : Schema) : propsSize s.props < s.size := by
  cases s with | mk t o d p i => simp [Schema.props, Schema.size]; have := optSize_pos i; omega

theorem size_items (s : Schema) : optSize s.items < s.size := by
  cases s with | mk t o d p i =>
    simp [Schema.items, Schema.size]
    have : 1 ≤ propsSize p := by cases p <;> simp [propsSize]
    omega

theorem innermost_spec : ∀ (n : Nat) (so : Option Schema) (it : Schema), innermostItems n so = some it →
    1 + it.size ≤ optSize so ∧ (optSize so ≤ n → (it.type == "array") = false)
  | 0, so, it, h => by
    cases (show so = some it from h)
    exact ⟨Nat.le_refl _, fun hn => by have := optSize_pos (some it); omega⟩
  | n + 1, none, it, h => by simp [innermostItems] at h
  | n + 1, some s, it, h => by
    have := size_items s
    simp only [innermostItems] at h
    simp only [optSize]
    split at h
    · have ih := innermost_spec n s.items it h
      exact ⟨by omega, fun hn => ih.2 (by omega)⟩
    · rename_i hna
      cases h
      exact ⟨Nat.le_refl _, fun _ => by simpa using hna⟩

theorem innermost_size : ∀ (n : Nat) (so : Option Schema) (it : Schema), innermostItems n so = some it →
    1 + it.size ≤ optSize so :=
  fun n so it h => (innermost_spec n so it h).1

/-- **The descent to the innermost `items` never stops for lack of fuel**: with at least `optSize` units (and
    `processField` passes `max 64 (optSize items)`), the schema it returns is not an array schema — the Go loop
    `for items.Type == "array" { items = items.Items }` has no bound, and neither has the model. -/
theorem innermost_fuel_sufficient : ∀ (n : Nat) (so : Option Schema) (it : Schema), optSize so ≤ n →
    innermostItems n so = some it → (it.type == "array") = false :=
  fun n so it hn h => (innermost_spec n so it h).2 hn

theorem innermost_fuel_irrelevant : ∀ (n m : Nat) (so : Option Schema), optSize so ≤ n → optSize so ≤ m →
    innermostItems n so = innermostItems m so
  | 0, _, so, hn, _ => by have := optSize_pos so; omega
  | _, 0, so, _, hm => by have := optSize_pos so; omega
  | n + 1, m + 1, none, _, _ => by simp [innermostItems]
  | n + 1, m + 1, some s, hn, hm => by
    simp only [innermostItems]
    split
    · have hi := size_items s
      simp only [optSize] at hn hm
      exact innermost_fuel_irrelevant n m s.items (by omega) (by omega)
    · rfl

/-- **Fuel sufficiency = totality of the schema → ABI conversion.** With more fuel than the size of the schema, none of
    the three mutually recursive functions of the model panics — whatever the schema contains (null properties,
    missing details, missing `items`, missing / negative / out-of-range / colliding positions, any nesting): the
    only panics of the model are running out of fuel (excluded here) and the nil-parameter hole (excluded by
    `no_holes`). By induction on the fuel. -/
theorem conversion_total : ∀ f : Nat,
    (∀ name so, optSize so < f → processField f name so ≠ .panic) ∧
    (∀ props, propsSize props < f → buildParams f props ≠ .panic) ∧
    (∀ ps slots, listSize ps < f → placeAll f ps slots ≠ .panic) := by
  intro f
  induction f with
  | zero =>
    refine ⟨fun _ so h => ?_, fun props h => ?_, fun ps _ h => ?_⟩ <;> omega
  | succ f ih =>
    obtain ⟨iF, iB, iP⟩ := ih
    refine ⟨?_, ?_, ?_⟩
    · intro name so hsz
      cases so with
      | none => rw [null_property_is_error]; simp
      | some s =>
        simp only [optSize] at hsz
        have hp := size_props s
        cases hd : s.details with
        | none => rw [missing_details_is_error f name s hd]; simp
        | some d =>
          rw [processField_some f name s d hd]
          refine Outcome.bind_ne_panic ?_ fun _ _ => by simp
          split
          · exact iB s.props (by omega)
          · split
            · split
              · simp
              · rename_i it hin
                have := innermost_size _ s.items it hin
                have := size_items s
                have := size_props it
                exact iB it.props (by omega)
            · simp
    · intro props hsz
      cases props with
      | none => simp [buildParams]
      | some props =>
        simp only [propsSize] at hsz
        have := dedupLast_size props
        rw [buildParams_some]
        exact Outcome.bind_ne_panic (iP _ _ (by omega)) fun _ _ => by simp
    · intro ps slots hsz
      cases ps with
      | nil => simp [placeAll]
      | cons e rest =>
        obtain ⟨k, so⟩ := e
        simp only [listSize] at hsz
        have := listSize_pos rest
        rw [placeAll_cons]
        refine Outcome.bind_ne_panic (iF k so (by omega)) fun p _ => ?_
        split
        · simp
        · split
          · exact iP rest _ (by omega)
          · simp

theorem processField_total (name : String) (so : Option Schema) : processField (fieldFuel so) name so ≠ .panic :=
  (conversion_total (fieldFuel so)).1 name so (by unfold fieldFuel; omega)

/-- **No interface parameter schema whatsoever makes the conversion panic**: `processField` has fuel for the whole
    schema and `parseParam` does not panic either (C13 `parse_total`) -/
theorem convertParam_never_panics (metaOK : Bool) (name : String) (so : Option Schema) :
    convertParam metaOK name so ≠ .panic := by
  unfold convertParam
  split
  · simp
  · split
    · split
      · cases so with
        | none => simp
        | some sc => dsimp only; split <;> simp
      · simp
      · exact absurd ‹_› (C13.parse_total _)
    · simp
    · exact absurd ‹_› (processField_total name so)

/-- non-vacuity of `conversion_total`: a schema with a null property, a missing `items` and colliding positions has a
    finite size, so the fuel hypothesis is satisfiable for it -/
example : optSize (some (Schema.mk "object" none (some { type := "tuple", internalType := "", indexed := false, index := none })
    (some [("a", none), ("b", some (Schema.mk "array" none (some { type := "uint256[]", internalType := "", indexed := false, index := some 0 }) none none)),
           ("c", some (Schema.mk "string" none (some { type := "string", internalType := "", indexed := false, index := some 0 }) none none))]) none)) < 64 := by
  decide

/-- strip the array layers -/
def core : Ty → Ty
  | .farr c _ | .darr c => core c
  | .elem info sfx m n => .elem info sfx m n
  | .tuple ns ts => .tuple ns ts

def arrayDepth : Ty → Nat
  | .farr c _ => 1 + arrayDepth c
  | .darr c => 1 + arrayDepth c
  | _ => 0

mutual
  /-- fuel that suffices to convert the schema of a type back -/
  def need : Ty → Nat
    | .elem _ _ _ _ => 2
    | .farr c _ => need c
    | .darr c => need c
    | .tuple _ ts => 3 + ts.length + needMax ts
  def needMax : List Ty → Nat
    | [] => 2
    | t :: ts => max (need t) (needMax ts)
end

mutual
  /-- the parameter's components fit the type: none for an elementary (array of) type, one per member with distinct
      names for a tuple -/
  def Shape : List Param → Ty → Prop
    | comps, .elem _ _ _ _ => comps = []
    | comps, .farr c _ => Shape comps c
    | comps, .darr c => Shape comps c
    | comps, .tuple _ ts => ShapeL comps ts ∧ (comps.map Param.name).Nodup
  def ShapeL : List Param → List Ty → Prop
    | [], [] => True
    | p :: ps, t :: ts => Shape p.components t ∧ ShapeL ps ts
    | _, _ => False
end

theorem leafSchema_fields (info : ElemInfo) (d : Details) :
    (leafSchema info d).type ≠ "object" ∧ (leafSchema info d).type ≠ "array" ∧
      (leafSchema info d).details = some d ∧ (leafSchema info d).props = none := by
  unfold leafSchema
  repeat' split
  all_goals simp [Schema.type, Schema.details, Schema.props]

theorem schemaOf_details (d : Details) (comps : List Param) : ∀ t, (schemaOf d comps t).details = some d
  | .elem info _ _ _ => by rw [schemaOf]; exact (leafSchema_fields info d).2.2.1
  | .farr c _ | .darr c => by rw [schemaOf]; exact schemaOf_details d comps c
  | .tuple ns ts => by rw [schemaOf]; rfl

theorem withDetails_type (s : Schema) (d : Option Details) : (s.withDetails d).type = s.type := by cases s; rfl
theorem withDetails_items (s : Schema) (d : Option Details) : (s.withDetails d).items = s.items := by cases s; rfl
theorem withDetails_props (s : Schema) (d : Option Details) : (s.withDetails d).props = s.props := by cases s; rfl
theorem withDetails_details (s : Schema) (d : Option Details) : (s.withDetails d).details = d := by cases s; rfl
theorem withDetails_self (s : Schema) (d : Option Details) (h : s.details = d) : s.withDetails d = s := by
  cases s; cases h; rfl
theorem size_withDetails (s : Schema) (x : Option Details) : (s.withDetails x).size = s.size := by
  cases s; simp [Schema.withDetails, Schema.size]

theorem innermostItems_of_ne (s : Schema) (h : s.type ≠ "array") : ∀ n, Model.Ffi.innermostItems n (some s) = some s
  | 0 => rfl
  | n + 1 => by simp [Model.Ffi.innermostItems, h]

theorem innermost_core (d : Details) (comps : List Param) : ∀ (t : Ty) (n : Nat), arrayDepth t ≤ n →
    Model.Ffi.innermostItems n (some ((schemaOf d comps t).withDetails none)) = some ((schemaOf d comps (core t)).withDetails none)
  | .elem info sfx m k, n, _ =>
    innermostItems_of_ne _ (by rw [withDetails_type, schemaOf]; exact (leafSchema_fields info d).2.1) n
  | .tuple ns ts, n, _ =>
    innermostItems_of_ne _ (by rw [withDetails_type, schemaOf]; exact (by decide : ("object" : String) ≠ "array")) n
  | .farr c _, n, h | .darr c, n, h => by
    rw [arrayDepth] at h
    obtain ⟨n, rfl⟩ : ∃ m, n = m + 1 := ⟨n - 1, by omega⟩
    rw [schemaOf, schemaOf_details, core, ← innermost_core d comps c n (by omega)]; rfl

theorem dedupLast_nodup {α : Type} : ∀ (l : List (String × α)), (l.map (·.1)).Nodup → dedupLast l = l
  | [], _ => rfl
  | (k, v) :: rest, h => by
    simp only [List.map_cons, List.nodup_cons] at h
    have hany : rest.any (·.1 == k) = false := by
      rw [List.any_eq_false]
      intro p hp hpk
      exact h.1 (List.mem_map.mpr ⟨p, hp, by simpa using hpk⟩)
    rw [dedupLast, hany, dedupLast_nodup rest h.2]; rfl

theorem schemaOfMembers_keys : ∀ (ps : List Param) (ts : List Ty) (i : Nat), ShapeL ps ts →
    (schemaOfMembers ps ts i).map (·.1) = ps.map Param.name
  | [], [], _, _ => by simp [schemaOfMembers]
  | p :: ps, t :: ts, i, h => by
    rw [schemaOfMembers, List.map_cons, List.map_cons, schemaOfMembers_keys ps ts (i + 1) h.2]
  | [], _ :: _, _, h | _ :: _, [], _, h => h.elim

theorem schemaOfMembers_length (ps : List Param) (ts : List Ty) (i : Nat) (h : ShapeL ps ts) :
    (schemaOfMembers ps ts i).length = ps.length := by
  simpa using congrArg List.length (schemaOfMembers_keys ps ts i h)

theorem need_ge2 : ∀ t, 2 ≤ need t
  | .elem _ _ _ _ => Nat.le_refl 2
  | .farr c _ | .darr c => need_ge2 c
  | .tuple _ ts => by show 2 ≤ 3 + ts.length + needMax ts; omega

theorem needMax_ge2 : ∀ ts, 2 ≤ needMax ts
  | [] => Nat.le_refl 2
  | t :: _ => Nat.le_trans (need_ge2 t) (Nat.le_max_left ..)

/-- the schema generated for a type is larger than the type's array nesting: the descent of `innermostItems`, which
    gets `max 64 (size of items)` units of fuel, always reaches the innermost schema -/
theorem depth_lt_size (d : Details) (comps : List Param) : ∀ t : Ty, arrayDepth t < (schemaOf d comps t).size
  | .elem _ _ _ _ => size_pos _
  | .tuple _ _ => size_pos _
  | .farr c _ | .darr c => by
    have ih := depth_lt_size d comps c
    rw [schemaOf, schemaOf_details]
    simp only [arrayDepth, Schema.size, propsSize, optSize, size_withDetails]
    omega

/-- on the schema generated for a type, under any details, the components are read off the properties of the schema of
    the type's core: the descent through the array layers reaches it (`innermost_core`, with `depth_lt_size`) -/
theorem processField_schemaOf (d d' : Details) (comps : List Param) (name : String) (f : Nat) (t : Ty) :
    processField (f + 2) name (some ((schemaOf d comps t).withDetails (some d'))) =
      (buildParams (f + 1) (schemaOf d comps (core t)).props).bind fun cs =>
        .ok (.mk name d'.type d'.indexed d'.internalType cs) := by
  rw [processField_some _ _ _ _ (withDetails_details _ _), withDetails_type, withDetails_props, withDetails_items]
  cases t with
  | elem info sfx m k =>
    obtain ⟨ho, ha, _, hp⟩ := leafSchema_fields info d
    rw [core, schemaOf, if_neg ho, if_neg ha, hp]; rfl
  | tuple ns ts => rw [core, schemaOf]; rfl
  | farr c _ | darr c =>
    have hfuel : arrayDepth c ≤ max 64 (optSize (some ((schemaOf d comps c).withDetails none))) := by
      have := depth_lt_size d comps c
      simp only [optSize, size_withDetails]; omega
    rw [schemaOf, schemaOf_details, core]
    simp only [Schema.type, Schema.items, if_true]
    rw [if_neg (by decide), innermost_core d comps c _ hfuel]
    dsimp only
    rw [withDetails_props]

theorem placeAt_next {α : Type} (pre : List α) (p : α) (k : Nat) :
    placeAt (pre.map some ++ List.replicate (k + 1) none) (pre.length : Int) p =
      some ((pre ++ [p]).map some ++ List.replicate k none) := by
  have hget : (pre.map some ++ List.replicate (k + 1) (none : Option α))[pre.length]? = some none := by
    rw [List.getElem?_append_right (by simp)]
    simp [List.replicate_succ]
  unfold placeAt
  rw [if_neg (by omega), Int.toNat_natCast, hget]
  dsimp only
  rw [List.set_append_right _ _ (by simp)]
  simp [List.replicate_succ]

theorem shapeL_length : ∀ (ps : List Param) (ts : List Ty), ShapeL ps ts → ps.length = ts.length
  | [], [], _ => rfl
  | p :: ps, t :: ts, h => by simp [shapeL_length ps ts h.2]
  | [], _ :: _, h | _ :: _, [], h => h.elim

theorem mk_detailsOf (p : Param) :
    .mk p.name (detailsOf p).type (detailsOf p).indexed (detailsOf p).internalType p.components = p := by
  cases p; rfl

mutual
  /-- the components of a parameter convert back from the schema of the core of its type -/
  theorem comps_back : ∀ (t : Ty) (d : Details) (comps : List Param) (f : Nat), Shape comps t → need t ≤ f + 2 →
      buildParams (f + 1) ((schemaOf d comps (core t)).props) = .ok comps
    | .elem info sfx m k, d, comps, f, hsh, _ => by
      rw [core, schemaOf, (leafSchema_fields info d).2.2.2, hsh]; rfl
    | .farr c _, d, comps, f, hsh, hf | .darr c, d, comps, f, hsh, hf => by
      exact comps_back c d comps f hsh hf
    | .tuple ns ts, d, comps, f, hsh, hf => by
      have hf : 3 + ts.length + needMax ts ≤ f + 2 := hf
      have hlen := shapeL_length comps ts hsh.1
      rw [core, schemaOf]
      simp only [Schema.props]
      rw [buildParams_some, dedupLast_nodup _ (by rw [schemaOfMembers_keys comps ts 0 hsh.1]; exact hsh.2),
        schemaOfMembers_length comps ts 0 hsh.1]
      have := members_back ts comps [] f hsh.1 (by omega)
      simp only [List.length_nil, List.map_nil, List.nil_append] at this
      rw [this]
      simp
  /-- placing the members: with the first `pre.length` positions filled, the remaining members fill theirs in order -/
  theorem members_back : ∀ (ts : List Ty) (suf pre : List Param) (fuel : Nat), ShapeL suf ts →
      suf.length + needMax ts + 1 ≤ fuel →
      placeAll fuel (schemaOfMembers suf ts pre.length) (pre.map some ++ List.replicate suf.length none) =
        .ok ((pre ++ suf).map some)
    | [], [], pre, fuel, _, hf => by
      obtain ⟨g, rfl⟩ : ∃ g, fuel = g + 1 := ⟨fuel - 1, by omega⟩
      simp [schemaOfMembers, placeAll]
    | [], _ :: _, _, _, hsh, _ | _ :: _, [], _, _, hsh, _ => hsh.elim
    | t :: ts, p :: ps, pre, fuel, hsh, hf => by
      have hf : ps.length + 1 + max (need t) (needMax ts) + 1 ≤ fuel := hf
      have := needMax_ge2 ts
      obtain ⟨g, rfl⟩ : ∃ g, fuel = g + 3 := ⟨fuel - 3, by omega⟩
      have hrec := members_back ts ps (pre ++ [p]) (g + 2) hsh.2 (by omega)
      simp only [List.length_append, List.length_singleton] at hrec
      rw [schemaOfMembers, placeAll_cons]
      simp only [schemaOf_details, Option.map_some]
      rw [processField_schemaOf, comps_back t _ _ g hsh.1 (by omega)]
      simp only [Outcome.ok_bind, Option.bind_some, withDetails_details, List.length_cons, mk_detailsOf]
      rw [placeAt_next pre p ps.length]
      simpa using hrec
end

/-- **ABI → FFI → ABI.** The schema generated for a parameter converts back to exactly that parameter: same name, type
    string, indexed flag, internal type and — recursively, through arrays and tuples — the same components in the same
    order; hence the same signature. Hypotheses: the parameter's components fit its type (`Shape`: none below an
    elementary type, one per tuple member with distinct names) and the fuel covers the type (`need`). Arrays may nest
    to any depth (`depth_lt_size`: the fuel `processField` gives `innermostItems` exceeds the nesting). -/
theorem abi_ffi_abi (p : Param) (t : Ty) (fuel : Nat) (hsh : Shape p.components t)
    (hf : need t ≤ fuel) :
    processField fuel p.name (some (schemaOf (detailsOf p) p.components t)) = .ok p := by
  obtain ⟨f, rfl⟩ : ∃ f, fuel = f + 2 := ⟨fuel - 2, by have := need_ge2 t; omega⟩
  have h := processField_schemaOf (detailsOf p) (detailsOf p) p.components p.name f t
  rwa [withDetails_self _ _ (schemaOf_details _ _ t), comps_back t _ _ f hsh hf, Outcome.ok_bind, mk_detailsOf] at h

/-- non-vacuity of `abi_ffi_abi`: `tuple[] pt` with members `uint256 x`, `string y` meets the hypotheses (any table
    entries for the two leaves), with fuel 7 -/
example (u s : ElemInfo) :
    let p : Param := .mk "pt" "tuple[]" false "" [.mk "x" "uint256" false "" [], .mk "y" "string" false "" []]
    let t : Ty := .darr (.tuple ["x", "y"] [.elem u "256" 256 0, .elem s "" 0 0])
    Shape p.components t ∧ need t ≤ 7 := by
  exact ⟨⟨⟨rfl, rfl, trivial⟩, by decide⟩, Nat.le_refl 7⟩

end FFS.Props.C20
