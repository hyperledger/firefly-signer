/-
  Property C12 — selectors, event topics and error selectors identify exactly the right ABI entry.
  Model: FFS.Model.Abi (abi.go: SignatureCtx, GenerateFunctionSelectorCtx, SignatureHashCtx, DecodeCallDataCtx,
  DecodeEventDataCtx, ParseErrorCtx) over the type parser (C13) and the decoder (C11).
  Call data: `decodeCallData_eq_ok` says that it decodes exactly when it carries the entry's own selector, and then as
  the parameter list at offset 4; `calldata_needs_own_selector`, `calldata_own_roundtrip` (with C03) and
  `parseError_attribution` (revert data goes to an error entry whose selector it carries) are read off it.
  Events: a non-anonymous event is decoded only under its own signature hash as topic 0 (`event_needs_own_topic`) and
  then as the anonymous event is from the other topics (`decodeEventData_own_topic`); `event_values_by_position`
  compares the walk over the inputs with the property's own reading of a log, `specEvent`.
  Totality is proved for `decodeCallData` only, not for `decodeEventData`.
-/
import FFS.Model.AbiEntry
import FFS.Props.C11
import FFS.Props.C13
import FFS.Props.C03
namespace FFS.Props.C12
open FFS FFS.Model.Abi FFS.Gen.AbiEntryFacts
open FFS.Outcome (bind_eq_ok map_eq_ok map_ne_panic ite_err_eq_ok ite_err_ne_panic)

theorem facts : selectorChecked = true ∧ eventRequiresTopic0 = true := by decide

theorem signature_canonical (e : Entry) (ts : List Ty) (h : parseParams e.inputs = .ok ts) :
    signature e = .ok (e.name ++ "(" ++ renderList ts ++ ")") := by
  simp [signature, h]

/-- (an elementary node stores its effective suffix, so an alias is rendered expanded: `uint` as `uint256`) -/
theorem render_tuple (ns : List String) (ts : List Ty) : render (.tuple ns ts) = "(" ++ renderList ts ++ ")" := by
  rw [render]

theorem render_arrays (t : Ty) (k : Nat) :
    render (.farr t k) = render t ++ "[" ++ toString k ++ "]" ∧ render (.darr t) = render t ++ "[]" := by
  constructor <;> rw [render]

theorem selector_is_hash_prefix (e : Entry) (s : String) (h : signature e = .ok s) :
    selector e = .ok ((Prim.keccak256 (utf8b s)).take 4) ∧ signatureHash e = .ok (Prim.keccak256 (utf8b s)) := by
  simp [selector, signatureHash, h, Outcome.map]

theorem selector_length (e : Entry) (id : Bytes) (h : selector e = .ok id) : id.length = 4 := by
  simp only [selector, signatureHash, map_eq_ok] at h
  obtain ⟨_, ⟨s, _, rfl⟩, rfl⟩ := h
  simp [Prim.keccak256_length]

theorem selector_ne_panic (e : Entry) : selector e ≠ .panic := by
  refine map_ne_panic _ (map_ne_panic _ ?_)
  unfold signature
  cases h : parseParams e.inputs with
  | panic => exact absurd h (C13.parseParams_total _)
  | _ => simp

theorem decodeCallData_eq (e : Entry) (b : Bytes) :
    decodeCallData e b = (selector e).bind fun id =>
      if b.length < 4 then .err
      else if id ≠ b.take 4 then .err
      else (parseParams e.inputs).bind fun ts => decodeParams ts b 4 := by
  unfold decodeCallData
  cases selector e with
  | ok id =>
    simp only [facts.1, Bool.true_and, bne_iff_ne, Outcome.ok_bind]
    cases parseParams e.inputs <;> rfl
  | _ => rfl

theorem decodeCallData_eq_ok (e : Entry) (b : Bytes) (cv : CV) :
    decodeCallData e b = .ok cv ↔ ∃ id, selector e = .ok id ∧ 4 ≤ b.length ∧ id = b.take 4 ∧
      ∃ ts, parseParams e.inputs = .ok ts ∧ decodeParams ts b 4 = .ok cv := by
  simp only [decodeCallData_eq, bind_eq_ok, ite_err_eq_ok, Nat.not_lt, Decidable.not_not]

theorem calldata_needs_own_selector (e : Entry) (b : Bytes) (cv : CV) (h : decodeCallData e b = .ok cv) :
    ∃ id, selector e = .ok id ∧ 4 ≤ b.length ∧ b.take 4 = id := by
  obtain ⟨id, h1, h2, h3, _⟩ := (decodeCallData_eq_ok e b cv).mp h
  exact ⟨id, h1, h2, h3.symm⟩

theorem decodeCallData_total (e : Entry) (b : Bytes) : decodeCallData e b ≠ .panic := by
  rw [decodeCallData_eq]
  refine Outcome.bind_ne_panic (selector_ne_panic e) fun id _ => ?_
  rw [ite_err_ne_panic, ite_err_ne_panic]
  exact fun _ _ => Outcome.bind_ne_panic (C13.parseParams_total _) fun _ _ => C11.decodeParams_total _ _ _

theorem parseError_go_attribution : ∀ (es : List Entry) (i j : Nat) (cv : CV) (b : Bytes),
    parseError.go b es i = some (j, cv) →
    ∃ e, (es[j - i]? = some e) ∧ i ≤ j ∧ e.type = "error" ∧ decodeCallData e b = .ok cv := by
  intro es
  induction es with
  | nil => intro i j cv b h; simp [parseError.go] at h
  | cons e es ih =>
    intro i j cv b h
    -- an entry that is skipped leaves the answer to the rest of the list
    have skip (h : parseError.go b es (i + 1) = some (j, cv)) :
        ∃ e', ((e :: es)[j - i]? = some e') ∧ i ≤ j ∧ e'.type = "error" ∧ decodeCallData e' b = .ok cv := by
      obtain ⟨e', h1, h2, h3, h4⟩ := ih (i + 1) j cv b h
      refine ⟨e', ?_, by omega, h3, h4⟩
      rw [show j - i = (j - (i + 1)) + 1 by omega]; simpa using h1
    unfold parseError.go at h
    split at h
    · rename_i hty
      split at h
      · rename_i cv' hd
        cases h
        exact ⟨e, by simp, by omega, by simpa using hty, hd⟩
      · exact skip h
    · exact skip h

theorem parseError_attribution (abi : List Entry) (b : Bytes) (j : Nat) (cv : CV) (h : parseError abi b = some (j, cv)) :
    ∃ e, (defaultError :: abi)[j]? = some e ∧ e.type = "error" ∧ decodeCallData e b = .ok cv ∧
      ∃ id, selector e = .ok id ∧ b.take 4 = id := by
  unfold parseError at h
  obtain ⟨e, h1, _, h3, h4⟩ := parseError_go_attribution _ 0 j cv b h
  obtain ⟨id, hid, _, htake⟩ := calldata_needs_own_selector e b cv h4
  exact ⟨e, by simpa using h1, h3, h4, id, hid, htake⟩

theorem indexed_value_from_topic (t : Ty) (topic : Bytes) :
    (∀ info sfx m n, t = .elem info sfx m n → info.fixed32 = true → topicToValue t topic = decodeElem info m topic 0 0) ∧
    ((∀ info sfx m n, t = .elem info sfx m n → info.fixed32 = false) → topicToValue t topic = .ok (.bytes topic)) := by
  constructor
  · intro info sfx m n ht hf; subst ht; simp [topicToValue, hf]
  · intro h
    cases t with
    | elem info sfx m n => simp [topicToValue, h info sfx m n rfl]
    | farr t k => rfl
    | darr t => rfl
    | tuple ns ts => rfl

/-- the rows of the type table whose indexed values are decoded from the topic; `bytes<M>` is not among them -/
theorem fixed32_rows : (Gen.AbiTypeTable.table.filter (·.fixed32)).map (·.name) =
    ["address", "bool", "fixed", "function", "int", "ufixed", "uint"] := by decide

theorem event_too_few_topics (p : Param) (ps : List Param) (t : Ty) (ts : List Ty) (hi : p.indexed = true) :
    eventWalk (p :: ps) (t :: ts) [] = .err := by
  simp [eventWalk, hi]

theorem event_needs_own_topic (e : Entry) (topics : List Bytes) (data : Bytes) (cv : CV) (ha : e.anonymous = false)
    (h : decodeEventData e topics data = .ok cv) :
    ∃ sigHash rest, signatureHash e = .ok sigHash ∧ topics = sigHash :: rest := by
  unfold decodeEventData at h
  split at h
  · rename_i ts sigHash hp hs
    simp only [ha, Bool.false_eq_true, if_false, facts.2, if_true] at h
    cases topics with
    | nil => simp at h
    | cons t0 rest =>
      by_cases heq : t0 = sigHash
      · exact ⟨sigHash, rest, hs, by rw [heq]⟩
      · simp [heq] at h
  · cases h
  · cases h
  · cases h

/-- the converse: under its own signature topic it is decoded as the anonymous event is from the remaining topics
    (which lets the kernel check a witness without computing the hash: FFS.Props.WitnessAbi) -/
theorem decodeEventData_own_topic (e : Entry) (h : Bytes) (rest : List Bytes) (data : Bytes) (ha : e.anonymous = false)
    (hs : signatureHash e = .ok h) :
    decodeEventData e (h :: rest) data = decodeEventData { e with anonymous := true } rest data := by
  have hs' : signatureHash { e with anonymous := true } = .ok h := hs
  unfold decodeEventData
  rw [hs, hs']
  cases parseParams e.inputs <;> simp [ha]

/-- the property's reading of an event log: walking the inputs in order, an indexed input takes the next topic
    (decoded if it is a fixed-size elementary type, raw otherwise), a non-indexed input takes the next data value -/
def specEvent : List Param → List Ty → List Bytes → List CV → Option (List CV)
  | p :: ps, t :: ts, topics, ds =>
    if p.indexed then
      match topics with
      | [] => none
      | tp :: rest =>
        match topicToValue t tp with
        | .ok v => (specEvent ps ts rest ds).map (v :: ·)
        | _ => none
    else
      match ds with
      | d :: ds' => (specEvent ps ts topics ds').map (d :: ·)
      | [] => none
  | _, _, _, _ => some []

/-- the types whose values come from the data part: the non-indexed inputs, in order -/
def dataTypes : List Param → List Ty → List Ty
  | p :: ps, t :: ts => if p.indexed then dataTypes ps ts else t :: dataTypes ps ts
  | _, _ => []

theorem eventWalk_cons (p : Param) (ps : List Param) (t : Ty) (ts : List Ty) (topics : List Bytes) :
    eventWalk (p :: ps) (t :: ts) topics =
      if p.indexed then
        match topics with
        | [] => .err
        | topic :: rest => (topicToValue t topic).bind fun v => (eventWalk ps ts rest).map fun q => (some v :: q.1, q.2)
      else (eventWalk ps ts topics).map fun q => (none :: q.1, t :: q.2) := by
  cases topics with
  | nil => rw [eventWalk]
  | cons topic rest => rw [eventWalk]; dsimp only; cases topicToValue t topic <;> rfl

/-- **Event values are taken from the right place.** What `eventWalk` + `fillFromData` assemble is exactly the
    property's reading: indexed values from their topics in order, the others from the decoded data in order, each at
    its original position; and the data part is decoded against exactly the non-indexed types. -/
theorem event_values_by_position : ∀ (ps : List Param) (ts : List Ty) (topics : List Bytes) (slots : List (Option CV))
    (dts : List Ty) (ds : List CV), eventWalk ps ts topics = .ok (slots, dts) → ds.length = dts.length →
    dts = dataTypes ps ts ∧ specEvent ps ts topics ds = some (fillFromData slots ds) := by
  intro ps
  induction ps with
  | nil =>
    intro ts topics slots dts ds h hl
    simp only [eventWalk] at h
    cases h
    simp [dataTypes, specEvent, fillFromData]
  | cons p ps ih =>
    intro ts topics slots dts ds h hl
    cases ts with
    | nil =>
      simp only [eventWalk] at h
      cases h
      simp [dataTypes, specEvent, fillFromData]
    | cons t ts =>
      rw [eventWalk_cons] at h
      by_cases hi : p.indexed = true
      · rw [if_pos hi] at h
        cases topics with
        | nil => cases h
        | cons tp rest =>
          obtain ⟨v, hv, h⟩ := bind_eq_ok.mp h
          obtain ⟨⟨vs, dts'⟩, hr, h⟩ := map_eq_ok.mp h
          cases h
          obtain ⟨i1, i2⟩ := ih ts rest vs dts' ds hr hl
          simp [dataTypes, specEvent, hi, hv, i1, i2, fillFromData]
      · rw [if_neg hi] at h
        obtain ⟨⟨vs, dts'⟩, hr, h⟩ := map_eq_ok.mp h
        cases h
        cases ds with
        | nil => simp at hl
        | cons d ds' =>
          obtain ⟨i1, i2⟩ := ih ts topics vs dts' ds' hr (by simpa using hl)
          simp [dataTypes, specEvent, hi, ← i1, i2, fillFromData]

/-- **Own call data decodes to the arguments.** For an entry whose inputs parse to valid types, the bytes
    `selector ‖ enc(args)` (the specification encoding, which `C02.encode_eq_spec` shows is what the encoder produces)
    are accepted by `DecodeCallData` and give back exactly the arguments. -/
theorem calldata_own_roundtrip (e : Entry) (ts : List Ty) (ns : List String) (cs : List CV) (id : Bytes)
    (hp : parseParams e.inputs = .ok ts) (hsel : selector e = .ok id)
    (hv : C03.ValidTys ts) (hw : Spec.Abi.wellTypedEach ts cs = true) (hs : C03.Small (.tuple ns ts) (.kids cs)) :
    decodeCallData e (id ++ Spec.Abi.enc (.tuple ns ts) (.kids cs)) = .ok (.kids cs) := by
  have hid := selector_length e id hsel
  have hdec := C03.decodeParams_enc ns ts cs id [] hv hw hs
  rw [List.append_nil, hid] at hdec
  exact (decodeCallData_eq_ok _ _ _).mpr ⟨id, hsel, by simp; omega, by rw [← hid, List.take_left' rfl], ts, hp, hdec⟩

def isOk {α : Type} : Outcome α → Bool | .ok _ => true | _ => false
def exFn : Entry := ⟨"function", "transfer", false, [.mk "to" "address" false "" [], .mk "amount" "uint256" false "" []]⟩
def exEv : Entry := ⟨"event", "Transfer", false,
  [.mk "from" "address" true "" [], .mk "to" "address" true "" [], .mk "value" "uint256" false "" []]⟩
def word (n : Nat) : Bytes := toBE 32 n
example : (signature exFn == .ok "transfer(address,uint256)") = true := by decide +kernel
-- the selector / call data / event / revert witnesses, which need Keccak-256 in the kernel, are in FFS.Props.WitnessAbi

end FFS.Props.C12
